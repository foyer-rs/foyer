import FoyerModel.Inflight
/-
  C06 — Concurrent fetches of one key are coalesced and every caller is answered (`FoyerModel.Inflight`; C11 is
  in `FoyerProofs/C11.lean`).  The in-flight entry of a key and its open leader task are one `Flight`, so "at most
  one open leader per key" is structural.  The invariant `Inv` holds after every event sequence; a step changes
  the callers only, the cache entry of one key, or the flight of one key (`Inv.setCallers`, `Inv.setCache`,
  `Inv.setFlight`), and every terminal transition of a leader is a `takeNotify`, which answers all its waiters.
-/
namespace Foyer.Infl

/-- Events as the harness (and any client) issues them: caller ids are fresh. -/
def Ev.wf (s : St) : Ev → Prop
  | .call c _ _ _ => ∀ x ∈ s.callers, x.id ≠ c
  | _ => True

/-- The invariant. -/
structure Inv (s : St) : Prop where
  /-- a pending caller is registered in the flight of its key -/
  waiting : ∀ c ∈ s.callers, c.st = .pending → ∃ fl, s.flight c.key = some fl ∧ c.id ∈ fl.waiters
  /-- a cached key has no flight (nothing in flight can later overwrite it) -/
  cached_no_flight : ∀ k v, s.cache k = some v → s.flight k = none
  /-- the future a leader awaits has started; a donated closure has not -/
  awaits : ∀ k fl, s.flight k = some fl →
    match fl.st with
    | .optional d _ => d ∈ s.dstarted
    | .required f => f ∈ s.started
  /-- every waiter of a flight is a caller of that key -/
  waiters_keys : ∀ k fl, s.flight k = some fl → ∀ w ∈ fl.waiters, ∃ c ∈ s.callers, c.id = w ∧ c.key = k

theorem upd_same {α : Type} (f : Nat → α) (k : Nat) (a : α) : upd f k a k = a := if_pos rfl
theorem upd_other {α : Type} (f : Nat → α) {k j : Nat} (a : α) (h : j ≠ k) : upd f k a j = f j := if_neg h

theorem notify_image {cs : List Caller} (ws : List Nat) (r : Res) {c : Caller} (hc : c ∈ cs) :
    ∃ c' ∈ notify cs ws r, c'.id = c.id ∧ c'.key = c.key ∧ (c.st = .pending → c.id ∈ ws → c'.st = .done r) := by
  refine ⟨_, List.mem_map.mpr ⟨c, hc, rfl⟩, ?_⟩
  split
  · exact ⟨rfl, rfl, fun _ _ => rfl⟩
  · rename_i hn
    exact ⟨rfl, rfl, fun hp hw => (hn ⟨List.contains_iff_mem.mpr hw, hp⟩).elim⟩

theorem notify_pending {cs : List Caller} {ws : List Nat} {r : Res} {c : Caller} (h : c ∈ notify cs ws r)
    (hp : c.st = .pending) : c ∈ cs ∧ c.id ∉ ws := by
  obtain ⟨c0, hc0, rfl⟩ := List.mem_map.mp h
  by_cases hn : ws.contains c0.id ∧ c0.st = .pending
  · rw [if_pos hn] at hp
    cases hp
  · rw [if_neg hn] at hp ⊢
    exact ⟨hc0, fun hw => hn ⟨List.contains_iff_mem.mpr hw, hp⟩⟩

theorem takeNotify_none {s : St} {k : Nat} (r : Res) (h : s.flight k = none) : takeNotify s k r = s := by
  simp only [takeNotify, h]

theorem takeNotify_some {s : St} {k : Nat} (r : Res) {fl : Flight} (h : s.flight k = some fl) :
    takeNotify s k r = { s with flight := upd s.flight k none, callers := notify s.callers fl.waiters r } := by
  simp only [takeNotify, h]

theorem takeNotify_flight (s : St) (k : Nat) (r : Res) : (takeNotify s k r).flight k = none := by
  cases hf : s.flight k with
  | none => rwa [takeNotify_none r hf]
  | some fl =>
    rw [takeNotify_some r hf]
    exact upd_same _ _ _

theorem takeNotify_flight_other (s : St) {k j : Nat} (r : Res) (h : j ≠ k) :
    (takeNotify s k r).flight j = s.flight j := by
  cases hf : s.flight k with
  | none => rw [takeNotify_none r hf]
  | some fl =>
    rw [takeNotify_some r hf]
    exact upd_other _ _ h

theorem takeNotify_cache (s : St) (k : Nat) (r : Res) : (takeNotify s k r).cache = s.cache := by
  unfold takeNotify
  cases s.flight k <;> rfl

theorem takeNotify_started (s : St) (k : Nat) (r : Res) :
    (takeNotify s k r).started = s.started ∧ (takeNotify s k r).dstarted = s.dstarted := by
  unfold takeNotify
  cases s.flight k <;> exact ⟨rfl, rfl⟩

theorem takeNotify_keys (s : St) (k : Nat) (r : Res) :
    (takeNotify s k r).callers.map (·.key) = s.callers.map (·.key) := by
  cases hf : s.flight k with
  | none => rw [takeNotify_none r hf]
  | some fl =>
    rw [takeNotify_some r hf]
    simp only [notify, List.map_map]
    refine List.map_congr_left fun c _ => ?_
    simp only [Function.comp]
    split <;> rfl

theorem Inv.setCallers {s : St} (h : Inv s) {cs' : List Caller}
    (hpending : ∀ c ∈ cs', c.st = .pending → c ∈ s.callers)
    (hkept : ∀ c ∈ s.callers, ∃ c' ∈ cs', c'.id = c.id ∧ c'.key = c.key) : Inv { s with callers := cs' } where
  waiting c hc hp := h.waiting c (hpending c hc hp) hp
  cached_no_flight := h.cached_no_flight
  awaits := h.awaits
  waiters_keys k fl hfl w hw := by
    obtain ⟨c, hc, hid, hkey⟩ := h.waiters_keys k fl hfl w hw
    obtain ⟨c', hc', hid', hkey'⟩ := hkept c hc
    exact ⟨c', hc', hid'.trans hid, hkey'.trans hkey⟩

theorem Inv.setCache {s : St} (h : Inv s) (k : Nat) (x : Option Nat) (hnoflight : ∀ v, x = some v → s.flight k = none) :
    Inv { s with cache := upd s.cache k x } :=
  ⟨h.waiting, fun j v hv => by
    by_cases hj : j = k
    · subst hj
      exact hnoflight v ((upd_same _ _ _).symm.trans hv)
    · exact h.cached_no_flight j v ((upd_other _ _ hj).symm.trans hv), h.awaits, h.waiters_keys⟩

/-- The flight of `k` becomes `y`; other keys are untouched, so the hypotheses concern `k` alone. -/
theorem Inv.setFlight {s : St} (h : Inv s) (k : Nat) (y : Option Flight) {cs' : List Caller} {st' dst' : List Nat}
    (hstarted : s.started ⊆ st') (hdstarted : s.dstarted ⊆ dst')
    (hkept : ∀ c ∈ s.callers, ∃ c' ∈ cs', c'.id = c.id ∧ c'.key = c.key)
    (hpending : ∀ c ∈ cs', c.st = .pending →
      c.key ≠ k ∧ c ∈ s.callers ∨ ∃ fl, y = some fl ∧ c.key = k ∧ c.id ∈ fl.waiters)
    (hcached : ∀ v, s.cache k = some v → y = none)
    (hflight : ∀ fl, y = some fl →
      (match fl.st with
        | .optional d _ => d ∈ dst'
        | .required f => f ∈ st') ∧ ∀ w ∈ fl.waiters, ∃ c ∈ cs', c.id = w ∧ c.key = k) :
    Inv { s with flight := upd s.flight k y, callers := cs', started := st', dstarted := dst' } := by
  refine ⟨fun c hc hp => ?_, fun j v hv => ?_, fun j fl hj => ?_, fun j fl hj w hw => ?_⟩
  · rcases hpending c hc hp with ⟨hk, hc0⟩ | ⟨fl, rfl, hk, hw⟩
    · obtain ⟨fl, h1, h2⟩ := h.waiting c hc0 hp
      exact ⟨fl, (upd_other _ _ hk).trans h1, h2⟩
    · exact ⟨fl, hk ▸ upd_same _ _ _, hw⟩
  · by_cases hjk : j = k
    · subst hjk
      exact (upd_same _ _ _).trans (hcached v hv)
    · exact (upd_other _ _ hjk).trans (h.cached_no_flight j v hv)
  · by_cases hjk : j = k
    · subst hjk
      exact (hflight fl ((upd_same _ _ _).symm.trans hj)).1
    · have := h.awaits j fl ((upd_other _ _ hjk).symm.trans hj)
      split at this
      · exact hdstarted this
      · exact hstarted this
  · by_cases hjk : j = k
    · subst hjk
      exact (hflight fl ((upd_same _ _ _).symm.trans hj)).2 w hw
    · obtain ⟨c, hc0, h1, h2⟩ := h.waiters_keys j fl ((upd_other _ _ hjk).symm.trans hj) w hw
      obtain ⟨c', hc', h3, h4⟩ := hkept c hc0
      exact ⟨c', hc', h3.trans h1, h4.trans h2⟩

theorem inv_takeNotify {s : St} (h : Inv s) (k : Nat) (r : Res) : Inv (takeNotify s k r) := by
  cases hf : s.flight k with
  | none => rwa [takeNotify_none r hf]
  | some fl =>
    rw [takeNotify_some r hf]
    refine h.setFlight k none (List.Subset.refl _) (List.Subset.refl _) (fun c hc => ?_) (fun c hc hp => ?_)
      (fun _ _ => rfl) (fun _ hy => nomatch hy)
    · obtain ⟨c', hc', h1, h2, _⟩ := notify_image fl.waiters r hc
      exact ⟨c', hc', h1, h2⟩
    · obtain ⟨hc0, hnw⟩ := notify_pending hc hp
      -- `c` was not addressed, so it is no waiter of `fl`, so its key is not `k`
      refine Or.inl ⟨fun hk => ?_, hc0⟩
      obtain ⟨fl', h1, h2⟩ := h.waiting c hc0 hp
      rw [hk, hf] at h1
      cases h1
      exact hnw h2

theorem inv_insertKV {s : St} (h : Inv s) (k v : Nat) : Inv (insertKV s k v) :=
  (inv_takeNotify h k _).setCache k _ fun _ _ => takeNotify_flight s k _

theorem Inv.arrive {s : St} (h : Inv s) {c k : Nat} {o : Option Flight} {fl' : Flight} {st' dst' : List Nat}
    (hnotcached : s.cache k = none) (hsofar : s.flight k = o)
    (hwaiters : fl'.waiters = o.elim [] (·.waiters) ++ [c])
    (hstarted : s.started ⊆ st') (hdstarted : s.dstarted ⊆ dst')
    (hawaits : match fl'.st with
      | .optional d _ => d ∈ dst'
      | .required f => f ∈ st') :
    Inv { s with flight := upd s.flight k (some fl'), callers := s.callers ++ [⟨c, k, .pending⟩],
                 started := st', dstarted := dst' } := by
  refine h.setFlight k (some fl') hstarted hdstarted (fun x hx => ⟨x, List.mem_append_left _ hx, rfl, rfl⟩)
    (fun x hx hp => ?_) (fun v hv => nomatch hnotcached.symm.trans hv) (fun fl hfl => ?_)
  · rcases List.mem_append.mp hx with h1 | h1
    · by_cases hk : x.key = k
      · obtain ⟨fl, h2, h3⟩ := h.waiting x h1 hp
        cases hsofar.symm.trans (hk ▸ h2)
        exact .inr ⟨fl', rfl, hk, hwaiters ▸ List.mem_append_left _ h3⟩
      · exact .inl ⟨hk, h1⟩
    · cases List.mem_singleton.mp h1
      exact .inr ⟨fl', rfl, rfl, hwaiters ▸ List.mem_append_right _ (List.mem_singleton_self c)⟩
  · cases hfl
    refine ⟨hawaits, fun w hw => ?_⟩
    rcases List.mem_append.mp (hwaiters ▸ hw) with h1 | h1
    · cases o with
      | none => cases h1
      | some fl =>
        obtain ⟨x, hx, h3⟩ := h.waiters_keys k fl hsofar w h1
        exact ⟨x, List.mem_append_left _ hx, h3⟩
    · cases List.mem_singleton.mp h1
      exact ⟨_, List.mem_append_right _ (List.mem_singleton_self _), rfl, rfl⟩

theorem inv_trySetRequired {s : St} (h : Inv s) (k : Nat) (fl : Flight) (hfl : s.flight k = some fl)
    (fr : Option Nat) (r : Res) : Inv (trySetRequired s k fl fr r) := by
  have advance : ∀ (f : Nat) (don : Option Nat),
      Inv { s with flight := upd s.flight k (some { fl with st := .required f, donated := don }),
                   started := s.started ++ [f] } := fun f don =>
    h.setFlight k _ (List.subset_append_left ..) (List.Subset.refl _) (fun x hx => ⟨x, hx, rfl, rfl⟩)
      (fun x hx hp => by
        by_cases hk : x.key = k
        · obtain ⟨fl0, h2, h3⟩ := h.waiting x hx hp
          cases hfl.symm.trans (hk ▸ h2)
          exact .inr ⟨_, rfl, hk, h3⟩
        · exact .inl ⟨hk, hx⟩)
      (fun v hv => nomatch hfl.symm.trans (h.cached_no_flight k v hv))
      (fun fl' hfl' => by
        cases hfl'
        exact ⟨List.mem_append_right _ (List.mem_singleton_self f), h.waiters_keys k fl hfl⟩)
  unfold trySetRequired
  cases fr with
  | some f => exact advance f fl.donated
  | none =>
    cases hd : fl.donated with
    | some f => exact advance f none
    | none => exact inv_takeNotify h k r

/-- A resolved disk lookup or origin fetch does nothing, inserts, moves the leader on (`trySetRequired`) or closes the
flight: what holds of these four holds of the step. -/
theorem step_future {P : St → Prop} {s : St} (h0 : P s)
    (hins : ∀ k v fl, s.flight k = some fl → P (insertKV s k v))
    (htry : ∀ k fl fr r, s.flight k = some fl → P (trySetRequired s k fl fr r))
    (hclose : ∀ k, P (takeNotify s k .errFetch)) :
    (∀ c r, P (step s (.disk c r))) ∧ ∀ f r, P (step s (.origin f r)) := by
  constructor
  · intro c r
    simp only [step]
    split
    · exact h0
    · rename_i k _
      split
      · exact h0
      · rename_i fl hfl
        split
        · split
          · cases r with
            | hit v => exact hins k v fl hfl
            | miss => exact htry k fl _ _ hfl
            | err => exact htry k fl _ _ hfl
          · exact h0
        · exact h0
  · intro f r
    simp only [step]
    split
    · exact h0
    · rename_i k _
      split
      · exact h0
      · rename_i fl hfl
        split
        · cases r with
          | ok v => exact hins k v fl hfl
          | err => exact hclose k
        · exact h0

/-- Fresh caller ids (`Ev.wf`) are not needed. -/
theorem inv_step {s : St} (h : Inv s) (e : Ev) : Inv (step s e) := by
  have future := step_future h (fun k v _ _ => inv_insertKV h k v)
    (fun k fl fr r hfl => inv_trySetRequired h k fl hfl fr r) (fun k => inv_takeNotify h k _)
  cases e with
  | call c k disk fetch =>
    cases hc : s.cache k with
    | some v =>
      simp only [step, hc]
      refine h.setCallers (fun x hx hp => ?_) fun x hx => ⟨x, List.mem_append_left _ hx, rfl, rfl⟩
      rcases List.mem_append.mp hx with h1 | h1
      · exact h1
      · cases List.mem_singleton.mp h1
        cases hp
    | none =>
      cases hf : s.flight k with
      | some fl =>
        simp only [step, hc, hf]
        exact h.arrive hc hf rfl (List.Subset.refl _) (List.Subset.refl _) (h.awaits k fl hf)
      | none =>
        simp only [step, hc, hf]
        split
        · exact h.arrive hc hf rfl (List.Subset.refl _) (List.subset_append_left ..)
            (List.mem_append_right _ (List.mem_singleton_self c))
        · split
          · exact h.arrive hc hf rfl (List.subset_append_left ..) (List.Subset.refl _)
              (List.mem_append_right _ (List.mem_singleton_self c))
          · -- neither lookup nor fetch: `c` is answered `Ok(None)` at once
            refine h.setCallers (fun x hx hp => ?_) fun x hx => ?_
            · obtain ⟨hx0, hnw⟩ := notify_pending hx hp
              rcases List.mem_append.mp hx0 with h1 | h1
              · exact h1
              · cases List.mem_singleton.mp h1
                exact (hnw (List.mem_singleton_self c)).elim
            · obtain ⟨x', hx', h1, h2, _⟩ := notify_image [c] .none (List.mem_append_left [⟨c, k, .pending⟩] hx)
              exact ⟨x', hx', h1, h2⟩
  | disk c r => exact (future.1 c r)
  | origin f r => exact (future.2 f r)
  | insert k v => exact inv_insertKV h k v
  | pinsert k v => exact (inv_takeNotify h k _).setCache k none fun _ hx => nomatch hx
  | remove k => exact h.setCache k none fun _ hx => nomatch hx
  | dropCaller c =>
    refine h.setCallers (fun x hx hp => ?_) fun x hx => ⟨_, List.mem_map.mpr ⟨x, hx, rfl⟩, ?_⟩
    · obtain ⟨x0, hx0, rfl⟩ := List.mem_map.mp hx
      split at hp
      · cases hp
      · rwa [if_neg ‹_›]
    · split <;> exact ⟨rfl, rfl⟩
  | abort => exact List.foldlRecOn _ _ h fun _ ht k _ => inv_takeNotify ht k _

theorem inv_init : Inv {} :=
  ⟨fun _ hc => (nomatch hc), fun _ _ hc => (nomatch hc), fun _ _ hf => (nomatch hf), fun _ _ hf => (nomatch hf)⟩

theorem inv_run (evs : List Ev) (s : St) (h : Inv s) : Inv (run s evs) :=
  List.foldlRecOn evs step h fun _ ht e _ => inv_step ht e

def wfRun : St → List Ev → Prop
  | _, [] => True
  | s, e :: es => e.wf s ∧ wfRun (step s e) es

/-- **no_orphan_waiter** — for every event sequence (with fresh caller ids): in every reachable
state each waiting caller is registered in the flight of its key, whose leader awaits a future that
has started.  So a caller can stay unanswered only as long as that future neither resolves nor is
dropped; no caller is ever "forgotten". -/
theorem no_orphan_waiter (evs : List Ev) (hw : wfRun {} evs) :
    ∀ c ∈ (run {} evs).callers, c.st = .pending →
      ∃ fl, (run {} evs).flight c.key = some fl ∧ c.id ∈ fl.waiters ∧
        (match fl.st with
          | .optional d _ => d ∈ (run {} evs).dstarted
          | .required f => f ∈ (run {} evs).started) := by
  intro c hc hp
  have h := inv_run evs {} inv_init
  obtain ⟨fl, h1, h2⟩ := h.waiting c hc hp
  exact ⟨fl, h1, h2, h.awaits _ fl h1⟩

/-- What `insert`, `pinsert`, a resolved origin fetch, a disk hit and a leader giving up all do to the waiters
of the flight they close. -/
theorem takeNotify_answers {s : St} {k : Nat} {fl : Flight} (r : Res) (hfl : s.flight k = some fl) :
    (∀ c ∈ (takeNotify s k r).callers, c.id ∈ fl.waiters → c.st ≠ .pending) ∧
    (∀ c ∈ s.callers, c.st = .pending → c.id ∈ fl.waiters →
      ∃ c' ∈ (takeNotify s k r).callers, c'.id = c.id ∧ c'.st = .done r) := by
  rw [takeNotify_some r hfl]
  refine ⟨fun c hc hw hp => ?_, fun c hc hp hw => ?_⟩
  · exact (notify_pending hc hp).2 hw
  · obtain ⟨c', hc', h1, _, h3⟩ := notify_image fl.waiters r hc
    exact ⟨c', hc', h1, h3 hp hw⟩

theorem step_origin {s : St} {f k : Nat} {fl : Flight} (hk : keyOfCaller s f = some k)
    (hfl : s.flight k = some fl) (hst : fl.st = .required f) (r : ORes) :
    step s (.origin f r) = match r with
      | .ok v => insertKV s k v
      | .err => takeNotify s k .errFetch := by
  cases r <;> simp only [step, hk, hfl, hst, if_true]

/-- **success_same_entry / coalescing**: when the origin fetch of the leader resolves successfully,
the value is cached, the flight is gone, and *every* waiter that was still listening holds that same
value — one fetch served them all. -/
theorem origin_ok_answers_all (s : St) (f k v : Nat) (fl : Flight) (hk : keyOfCaller s f = some k)
    (hfl : s.flight k = some fl) (hst : fl.st = .required f) :
    (step s (.origin f (.ok v))).cache k = some v ∧ (step s (.origin f (.ok v))).flight k = none ∧
    (step s (.origin f (.ok v))).started = s.started ∧
    ∀ c ∈ (step s (.origin f (.ok v))).callers, c.id ∈ fl.waiters → c.st ≠ .pending := by
  rw [step_origin hk hfl hst]
  exact ⟨upd_same _ _ _, takeNotify_flight s k _, (takeNotify_started s k _).1, (takeNotify_answers _ hfl).1⟩

/-- **error_propagates / failed_fetch_caches_nothing**: a failed origin fetch answers every waiter
(with the fetch's error), caches nothing and leaves no flight behind — the next caller leads a new
fetch. -/
theorem origin_err_answers_all (s : St) (f k : Nat) (fl : Flight) (hk : keyOfCaller s f = some k)
    (hfl : s.flight k = some fl) (hst : fl.st = .required f) :
    (step s (.origin f .err)).cache = s.cache ∧ (step s (.origin f .err)).flight k = none ∧
    (∀ c ∈ (step s (.origin f .err)).callers, c.id ∈ fl.waiters → c.st ≠ .pending) ∧
    (∀ c ∈ s.callers, c.st = .pending → c.id ∈ fl.waiters →
      ∃ c' ∈ (step s (.origin f .err)).callers, c'.id = c.id ∧ c'.st = .done .errFetch) := by
  rw [step_origin hk hfl hst]
  exact ⟨takeNotify_cache s k _, takeNotify_flight s k _, takeNotify_answers _ hfl⟩

/-- After a failed fetch the next call of the key fetches again. -/
theorem next_call_fetches_again (s : St) (c k : Nat) (hc : s.cache k = none) (hf : s.flight k = none) :
    (step s (.call c k false true)).started = s.started ++ [c] := by
  simp [step, hc, hf]

theorem foldl_takeNotify_flight (r : Res) : ∀ (ks : List Nat) (s : St) (k : Nat), k ∈ ks ∨ s.flight k = none →
    (ks.foldl (fun acc k => takeNotify acc k r) s).flight k = none
  | [], _, _, h => h.resolve_left (fun hk => nomatch hk)
  | j :: js, s, k, h => foldl_takeNotify_flight r js _ k <| by
    by_cases hkj : k = j
    · exact Or.inr (hkj ▸ takeNotify_flight s k _)
    · exact h.imp (fun hk => (List.mem_cons.mp hk).resolve_left hkj) (fun hn => (takeNotify_flight_other s _ hkj).trans hn)

/-- **cancel_propagates**: when the fetch tasks are cancelled no caller is left waiting. -/
theorem abort_answers_all (s : St) (h : Inv s) : ∀ c ∈ (step s .abort).callers, c.st ≠ .pending := by
  intro c hc hp
  -- every caller's key is closed and callers keep their keys: a caller still pending would sit in a flight that is gone
  have hkeys : (step s .abort).callers.map (·.key) = s.callers.map (·.key) :=
    List.foldlRecOn (motive := fun t : St => t.callers.map (·.key) = s.callers.map (·.key)) _ _ rfl
      fun t ht k _ => (takeNotify_keys t k _).trans ht
  obtain ⟨fl, hfl, _⟩ := (inv_step h .abort).waiting c hc hp
  exact nomatch hfl.symm.trans (foldl_takeNotify_flight _ _ s c.key (Or.inl (hkeys ▸ List.mem_map_of_mem hc)))

/-- **donated_fetch_used**: a lookup-only leader that was joined by a caller with a fetch closure
runs that closure once its own disk lookup missed (or failed), keeping every waiter registered. -/
theorem donated_fetch_used (s : St) (d k f : Nat) (fl : Flight) (hk : keyOfCaller s d = some k)
    (hfl : s.flight k = some fl) (hst : fl.st = .optional d none) (hdon : fl.donated = some f) (r : DRes)
    (hmiss : r = .miss ∨ r = .err) :
    (step s (.disk d r)).started = s.started ++ [f] ∧
    (step s (.disk d r)).flight k = some { fl with st := .required f, donated := none } := by
  rcases hmiss with rfl | rfl <;>
    simp [step, hk, hfl, hst, trySetRequired, hdon, upd_same]

namespace Demo
def evs : List Ev := [.call 0 7 true false, .call 1 7 false true, .disk 0 .miss, .origin 1 (.ok 5)]
example : (run {} evs).started = [1] := by decide
example : (run {} evs).callers.map (·.st) = [.done (.val 5), .done (.val 5)] := by decide
example : wfRun {} evs := by simp [wfRun, Ev.wf, step, evs]
end Demo

end Foyer.Infl
