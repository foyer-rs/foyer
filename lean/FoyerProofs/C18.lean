import FoyerProofs.Lemmas.HeldInv
import FoyerProofs.C02
import FoyerProofs.C14
/-
  C18 — Handles pin what they reference and report outdatedness truthfully.

  A held handle keeps denoting the same record; under LRU a looked-up, still held record sits in the pin
  list, is never a victim and stays pinned until an operation addresses it; pins never leak.
  Outdatedness is not the subject of a theorem here: the trace driver computes `is_outdated()` of a held record
  as "a lookup of its key no longer returns it" (`Driver/Mem.lean`, `heldObs`), and that the implementation's
  `IN_INDEXER` flag agrees is checked by the correspondence (field `held`).
-/
namespace Foyer.C18

abbrev LruOk (capFn : Nat → Nat) : Lru → Prop := fun s => LruI s ∧ idsNodup ((lruPolicy capFn).members s)

def lruPin (s : Lru) : List Rec := s.pin.map (·.r)

theorem mem_pin_members (capFn : Nat → Nat) (s : Lru) (r : Rec) (h : r ∈ lruPin s) : r ∈ (lruPolicy capFn).members s := by
  show r ∈ (s.low ++ s.high ++ s.pin).map (·.r)
  simp only [List.map_append, List.mem_append]
  exact Or.inr h

theorem lru_protects (capFn : Nat → Nat) : Protects (lruPolicy capFn) (LruOk capFn) lruPin where
  sub s _ r h := mem_pin_members capFn s r h
  pop s r s' h hp := by
    obtain ⟨h1, h2⟩ := C14.lru_never_pops_pinned capFn s r s' h.2 hp
    exact ⟨h1, by unfold lruPin; rw [h2]⟩
  push s r _ _ := congrArg (List.map _) (lru_push_pin capFn s r)
  remove s x h hx r hr hne := by
    rw [lruPin, lru_remove_pin]
    exact mem_map_eraseEnt.mpr ⟨hr, fun e => hne (eq_of_id_eq h.2 (mem_pin_members capFn s r hr) hx e)⟩
  acquire s x _ r hr := by
    rw [lruPin, lru_acquire_pin, List.map_append]
    exact List.mem_append_left _ hr
  acquire_pins s x h hx := by
    rw [lruPin, lru_acquire_pin, List.map_append]
    obtain ⟨e, he, rfl⟩ := List.mem_map.mp hx
    have he : e ∈ s.high ++ s.low ∨ e ∈ s.pin := by
      simpa only [List.mem_append, or_comm (a := e ∈ s.low)] using he
    cases hf : findEnt e.r.id (s.high ++ s.low) with
    | some e' =>
      have ⟨hm, hid⟩ := findEnt_some hf
      have hm : e' ∈ s.low ++ s.high ++ s.pin :=
        List.mem_append_left _ (List.mem_append.mpr (List.mem_append.mp hm).symm)
      exact List.mem_append_right _ (eq_of_id_eq h.2 (List.mem_map_of_mem hm) hx hid ▸ List.mem_map_of_mem List.mem_cons_self)
    | none => exact List.mem_append_left _ (List.mem_map_of_mem (he.resolve_left fun he => findEnt_none hf e he rfl))
  release s x _ r hr hne := by
    rw [lruPin, lru_release_pin]
    exact mem_map_eraseEnt.mpr ⟨hr, hne⟩
  update s c _ := rfl

theorem lru_unprotects (capFn : Nat → Nat) : Unprotects (lruPolicy capFn) (LruOk capFn) lruPin where
  init _ := rfl
  acquire_only s x _ r hr := by
    rw [lruPin, lru_acquire_pin, List.map_append] at hr
    refine (List.mem_append.mp hr).imp_right fun h => ?_
    obtain ⟨e, he, rfl⟩ := List.mem_map.mp h
    exact (findEnt_some (Option.mem_toList.mp he)).2
  release_removes s x _ r hr := by
    rw [lruPin, lru_release_pin] at hr
    exact mem_map_eraseEnt.mp hr
  remove_sub s x h hx r hr := by
    rw [lruPin, lru_remove_pin] at hr
    exact mem_map_eraseEnt.mp hr
  clear _ _ := rfl

variable {capFn : Nat → Nat}

/-- **lru_get_pins**: a successful lookup pins the record (it joins the pin list of its shard). -/
theorem lru_get_pins {cfg : Cfg} (hn : 0 < cfg.nshards) {c : Cache Lru}
    (hc : CacheInv (lruPolicy capFn) (LruOk capFn) cfg c) (k : Nat) (r : Rec)
    (h : (Cache.step (lruPolicy capFn) cfg c (.get k)).2.ret = Ret.handle r) :
    Cache.protected lruPin (Cache.step (lruPolicy capFn) cfg c (.get k)).1 r := by
  exact get_pins (lru_protects capFn) hc h

/-- **lru_held_not_victim** (one step of the induction over the operations between the lookup and
the drop of the last handle): a pinned record is never reported as evicted, and it stays pinned
unless the operation is the drop of its handle, or a touch / remove / insert of its key, or clear. -/
theorem lru_held_not_victim {cfg : Cfg} (hn : 0 < cfg.nshards) {c : Cache Lru}
    (hc : CacheInv (lruPolicy capFn) (LruOk capFn) cfg c) (r : Rec) (hr : Cache.protected lruPin c r) (op : Op) :
    (Reason.evict, r) ∉ (Cache.step (lruPolicy capFn) cfg c op).2.leaves ∧
    (Cache.protected lruPin (Cache.step (lruPolicy capFn) cfg c op).1 r ∨ op = .drop r.id ∨ op = .touch r.key ∨
      op = .remove r.key ∨ (∃ v w h p l a, op = .ins r.key v w h p l a) ∨ op = .clear) :=
  protected_step (lru_lawful capFn) (lru_protects capFn) hn hc r hr op

/-- **lru_pinned_is_held**: in every reachable state every pinned record has an outstanding handle
(`refs > 0`) — pins never leak. -/
theorem lru_pinned_is_held (cfg : Cfg) (hn : 0 < cfg.nshards) (cap : Nat) (ops : List Op) :
    HeldInv lruPin (Cache.run (lruPolicy capFn) cfg (Cache.new (lruPolicy capFn) cfg cap) ops).1 := by
  exact heldInv_run (lru_lawful capFn) (lru_protects capFn) (lru_unprotects capFn) hn ops _ (new_inv (lru_lawful capFn) cfg cap)
    (heldInv_new (lru_unprotects capFn) cfg cap)

theorem lru_emplace_within {s : Shard Lru} (hsi : ShardInv (lruPolicy capFn) (LruOk capFn) s) (hpin : s.ev.pin = [])
    {r : Rec} (hph : r.phantom = false) (hfresh : ∀ x ∈ s.index, x.id ≠ r.id) (hw : r.weight ≤ s.cap) :
    (Shard.emplace (lruPolicy capFn) s r).1.usage ≤ (Shard.emplace (lruPolicy capFn) s r).1.cap := by
  have sp := emplace_spec (lru_lawful capFn) hsi hph hfresh
  generalize Shard.emplace (lruPolicy capFn) s r = res at sp
  obtain ⟨s1, vs, repl, hevq, es, _, hcase⟩ := sp.shape
  rw [sp.cap_eq]
  have hpin1 : lruPin s1.ev = lruPin s.ev := by
    have := (evict_protects (lru_lawful capFn) (lru_protects capFn) hsi (s.cap - r.weight)).1
    rw [hevq] at this; exact this
  have hdone : s1.usage ≤ s.cap - r.weight ∨ (lruPolicy capFn).pop s1.ev = none := es.done
  rcases hdone with h | h
  · rcases hcase with ⟨_, _, h3, _⟩ | ⟨old, _, _, h3, _⟩ <;> omega
  · -- nothing poppable although nothing is pinned: every other entry is gone, only the new one is left
    obtain ⟨hl, hh1⟩ := lru_pop_none h
    have hp1 : s1.ev.pin = [] := by
      have : lruPin s1.ev = [] := by rw [hpin1]; simp [lruPin, hpin]
      simpa [lruPin] using this
    have hidx : s1.index = [] := by
      cases hi : s1.index with
      | nil => rfl
      | cons x xs =>
        have := (es.inv.mem_iff x).mpr (by rw [hi]; exact List.mem_cons_self)
        have hm : x ∈ (s1.ev.low ++ s1.ev.high ++ s1.ev.pin).map (·.r) := this
        rw [hl, hh1, hp1] at hm
        simp at hm
    have hu1 : s1.usage = 0 := by rw [es.inv.usage_eq, hidx]; rfl
    rcases hcase with ⟨_, _, h3, _⟩ | ⟨old, _, hfk, _, _⟩
    · omega
    · rw [hidx] at hfk; simp [findKey] at hfk

/-- **lru_no_leak**: with no outstanding handles nothing is pinned, so an insert of an entry that
fits the shard leaves the shard within its capacity. -/
theorem lru_no_leak {cfg : Cfg} (hn : 0 < cfg.nshards) {c : Cache Lru}
    (hc : CacheInv (lruPolicy capFn) (LruOk capFn) cfg c) (hh : HeldInv lruPin c) (hnone : c.held = [])
    (key ver weight : Nat) (hint : Hint) (loc : Loc) (age : Age) (s : Shard Lru)
    (hs : c.shards[cfg.shardOf (cfg.H key)]? = some s) (hw : weight ≤ s.cap) :
    ∃ s', (Cache.step (lruPolicy capFn) cfg c (.ins key ver weight hint false loc age)).1.shards[cfg.shardOf (cfg.H key)]? = some s' ∧
      s'.usage ≤ s'.cap := by
  have hpin : s.ev.pin = [] := by
    cases hp : s.ev.pin with
    | nil => rfl
    | cons e es =>
      have := hh _ s hs e.r (by simp [lruPin, hp])
      rw [hnone] at this
      simp [heldCnt] at this
  have hlt : cfg.shardOf (cfg.H key) < c.shards.length := (List.getElem?_eq_some_iff.mp hs).1
  rw [step_ins (lruPolicy capFn) hs rfl]
  exact ⟨_, by simp [setAt_eq_set, hlt],
    lru_emplace_within (r := { id := c.nextId, key, hash := cfg.H key, ver, weight, hint, phantom := false, loc, age })
      (hc.shard _ s hs) hpin rfl (fun x hx => Nat.ne_of_lt (hc.fresh _ s hs x hx)) hw⟩

/-- **held_data_stable**: see `Foyer.C02.held_stable`. -/
theorem held_data_stable {σ : Type} {P : Policy σ} (cfg : Cfg) (c : Cache σ) (op : Op) (rid : Nat) (x : Rec)
    (h : heldFind c.held rid = some x) (hop : op ≠ .drop rid) :
    heldFind (Cache.step P cfg c op).1.held rid = some x := C02.held_stable cfg c op rid x h hop

namespace Demo
def cfg : Cfg := { nshards := 1, H := fun k => k }
def P := lruPolicy (fun c => c / 2)
/-- insert two unit entries into a cache of capacity 2, look the first up and hold it, insert a
third: the victim is the *second* entry (the first one is pinned) -/
def ops : List Op := [.ins 0 1 1 .normal false, .drop 0, .ins 1 2 1 .normal false, .drop 1, .get 0, .ins 2 3 1 .normal false]
example : ((Cache.run P cfg (Cache.new P cfg 2) ops).2.map fun o => o.leaves.map (·.2.key)) = [[], [], [], [], [], [1]] := by decide
example : (Cache.run P cfg (Cache.new P cfg 2) ops).1.shards.map (fun s => s.ev.pin.map (·.r.key)) = [[0]] := by decide
end Demo
end Foyer.C18
