import FoyerModel.Codec
/-
  C08 — Every storable key/value round-trips through the disk format bit-exactly.

  Round-trip laws for the `Code` impls of the built-in types, the entry header, a whole entry
  (compression = none unconditionally; zstd / lz4 under the named hypothesis
  `decompress ∘ compress = id`), and the all-or-nothing bookkeeping of `Buffer::push`.
-/
namespace Foyer.Codec

theorem encLE_length (w n : Nat) : (encLE w n).length = w := by
  induction w generalizing n with
  | zero => rfl
  | succ w ih => simp [encLE, ih]

theorem encLE_wf (w n : Nat) : wfBytes (encLE w n) := by
  induction w generalizing n with
  | zero => intro b hb; cases hb
  | succ w ih =>
    intro b hb
    simp only [encLE, List.mem_cons] at hb
    rcases hb with rfl | hb
    · exact Nat.mod_lt _ (by decide)
    · exact ih _ b hb

/-- **decode_encode (unsigned, little-endian)**: `u8 … u128`, `usize`, and `f32` / `f64` as their bit
patterns. -/
theorem decLE_encLE (w n : Nat) (rest : Bytes) (h : n < 256 ^ w) :
    decLE w (encLE w n ++ rest) = some (n, rest) := by
  induction w generalizing n with
  | zero =>
    rw [Nat.lt_one_iff.mp h]
    rfl
  | succ w ih =>
    have h1 : n / 256 < 256 ^ w := Nat.div_lt_of_lt_mul (Nat.mul_comm .. ▸ Nat.pow_succ .. ▸ h)
    simp only [encLE, List.cons_append, decLE, ih _ h1, Nat.mod_add_div]

theorem decLE_short (w : Nat) (bs : Bytes) (h : bs.length < w) : decLE w bs = none := by
  induction w generalizing bs with
  | zero => exact absurd h (Nat.not_lt_zero _)
  | succ w ih =>
    cases bs with
    | nil => rfl
    | cons b bs => rw [decLE, ih bs (Nat.lt_of_succ_lt_succ h)]

theorem encBE_length (w n : Nat) : (encBE w n).length = w := by
  induction w generalizing n with
  | zero => rfl
  | succ w ih => simp [encBE, ih]

theorem decBEAux_encBE (w n acc : Nat) (rest : Bytes) (h : n < 256 ^ w) :
    decBEAux w acc (encBE w n ++ rest) = some (acc * 256 ^ w + n, rest) := by
  induction w generalizing n acc with
  | zero => simp [decBEAux, encBE, Nat.lt_one_iff.mp h]
  | succ w ih =>
    have hb : n / 256 ^ w < 256 := Nat.div_lt_of_lt_mul (Nat.pow_succ .. ▸ h)
    rw [encBE, List.cons_append, decBEAux, Nat.mod_eq_of_lt hb, ih _ _ (Nat.mod_lt _ (Nat.pow_pos (by decide))),
      Nat.add_mul, Nat.mul_assoc, Nat.add_assoc, Nat.div_add_mod', Nat.pow_succ, Nat.mul_comm 256]

/-- **decode_encode (big-endian fields of header / blob index / tombstone)**. -/
theorem decBE_encBE (w n : Nat) (rest : Bytes) (h : n < 256 ^ w) :
    decBE w (encBE w n ++ rest) = some (n, rest) := by
  rw [decBE, decBEAux_encBE w n 0 rest h, Nat.zero_mul, Nat.zero_add]

/-- Two's complement: the residue of `i` modulo `p`, read back as a signed number, is `i` for `-p/2 ≤ i < p/2`. -/
theorem int_tc (p : Nat) (i : Int) (hlo : -(p : Int) ≤ 2 * i) (hhi : 2 * i < (p : Int)) :
    (i % (p : Int)).toNat < p ∧
    (if 2 * (i % (p : Int)).toNat < p then ((i % (p : Int)).toNat : Int) else ((i % (p : Int)).toNat : Int) - p) = i := by
  by_cases hneg : i < 0
  · have hr : 0 ≤ i + p ∧ i + p < p := by omega
    obtain ⟨n, hn⟩ := Int.eq_ofNat_of_zero_le hr.1
    rw [← Int.add_emod_right, Int.emod_eq_of_lt hr.1 hr.2, hn, Int.toNat_natCast]
    have h : n < p ∧ ¬ 2 * n < p ∧ (n : Int) - p = i := by omega
    rw [if_neg h.2.1]
    exact ⟨h.1, h.2.2⟩
  · have hr : 0 ≤ i ∧ i < p := by omega
    obtain ⟨n, hn⟩ := Int.eq_ofNat_of_zero_le hr.1
    rw [Int.emod_eq_of_lt hr.1 hr.2, hn, Int.toNat_natCast]
    have h : n < p ∧ 2 * n < p := by omega
    rw [if_pos h.2]
    exact ⟨h.1, rfl⟩

/-- **decode_encode (signed, two's complement)**: `i8 … i128`, `isize`. -/
theorem decInt_encInt (w : Nat) (i : Int) (rest : Bytes)
    (hlo : -((256 ^ w : Nat) : Int) ≤ 2 * i) (hhi : 2 * i < ((256 ^ w : Nat) : Int)) :
    decInt w (encInt w i ++ rest) = some (i, rest) := by
  obtain ⟨h1, h2⟩ := int_tc (256 ^ w) i hlo hhi
  unfold decInt encInt
  rw [decLE_encLE _ _ _ h1]
  simp only [Option.some.injEq, Prod.mk.injEq, and_true]
  exact h2

/-- **bool**: round trip, and every byte other than 0 / 1 is rejected. -/
theorem decBool_encBool (b : Bool) (rest : Bytes) : decBool (encBool b ++ rest) = .ok (b, rest) := by
  cases b <;> rfl

theorem bool_decode_rejects (x : Nat) (rest : Bytes) (h : 2 ≤ x) : decBool (x :: rest) = .error .parse := by
  match x, h with
  | x + 2, _ => rfl

/-- **Vec<u8> / Bytes** (and `String` below): length-prefixed, any content, any length `< 2^64`. -/
theorem decVec_encVec (bs rest : Bytes) (h : bs.length < 2 ^ 64) : decVec (encVec bs ++ rest) = .ok (bs, rest) := by
  have hlen : ¬ (bs ++ rest).length < bs.length := by
    rw [List.length_append]
    exact Nat.not_lt.mpr (Nat.le_add_right ..)
  rw [decVec, encVec, List.append_assoc, decLE_encLE 8 bs.length _ h]
  simp only [if_neg hlen, List.take_left' rfl, List.drop_left' rfl]

theorem decString_encVec (valid : Bytes → Bool) (bs rest : Bytes) (h : bs.length < 2 ^ 64) (hv : valid bs = true) :
    decString valid (encVec bs ++ rest) = .ok (bs, rest) := by
  unfold decString
  rw [decVec_encVec bs rest h]
  simp [hv]

theorem decString_rejects_invalid (valid : Bytes → Bool) (bs rest : Bytes) (h : bs.length < 2 ^ 64) (hv : valid bs = false) :
    decString valid (encVec bs ++ rest) = .error .parse := by
  unfold decString
  rw [decVec_encVec bs rest h]
  simp [hv]

/-- A truncated length-prefixed value is an error, never a shorter value. -/
theorem decVec_truncated (bs : Bytes) (n : Nat) (h : bs.length < 2 ^ 64) (hn : n < bs.length) :
    decVec (encLE 8 bs.length ++ bs.take n) = .error .eof := by
  have hshort : (bs.take n).length < bs.length := by
    rw [List.length_take]
    exact Nat.lt_of_le_of_lt (Nat.min_le_left ..) hn
  rw [decVec, decLE_encLE 8 bs.length _ h]
  simp only [if_pos hshort]

theorem encHeader_length (h : Header) : (encHeader h).length = HEADER_LEN := by
  simp only [encHeader, List.length_append, encBE_length, HEADER_LEN]

/-- The first five fields come as a `Header` with `h.wf` because each bound `x < 2 ^ 32` written out in a statement
is slow to elaborate. -/
theorem decHeader_fields (h : Header) (hw : h.wf) (v : Nat) (hv : v < 2 ^ 32) (rest : Bytes) :
    decHeader (encBE 4 h.keyLen ++ encBE 4 h.valueLen ++ encBE 8 h.hash ++ encBE 8 h.seq ++ encBE 8 h.checksum ++
        encBE 4 v ++ rest) =
      if v / 256 * 256 ≠ ENTRY_MAGIC then .error .magic
      else if v % 256 > 2 then .error .parse
      else .ok ({ h with compression := v % 256 }, rest) := by
  simp only [decHeader, List.append_assoc, decBE_encBE 4 _ _ hw.1, decBE_encBE 4 _ _ hw.2.1, decBE_encBE 8 _ _ hw.2.2.1,
    decBE_encBE 8 _ _ hw.2.2.2.1, decBE_encBE 8 _ _ hw.2.2.2.2.1, decBE_encBE 4 v _ hv]

/-- `serde.rs` writes `ENTRY_MAGIC | compression.to_u8()` and reads `v & ENTRY_MAGIC_MASK`, `v as u8`; the low byte of
the magic is zero. -/
theorem magic_tag {c : Nat} (hc : c ≤ 2) :
    (ENTRY_MAGIC + c) / 256 * 256 = ENTRY_MAGIC ∧ (ENTRY_MAGIC + c) % 256 = c ∧ ENTRY_MAGIC + c < 2 ^ 32 := by
  have hc' : c < 256 := Nat.lt_of_le_of_lt hc (by decide)
  have hm : ENTRY_MAGIC = 256 * 0x970327 := rfl
  refine ⟨?_, ?_, Nat.lt_of_le_of_lt (Nat.add_le_add_left hc _) (by decide)⟩
  · rw [hm, Nat.mul_add_div (by decide), Nat.div_eq_of_lt hc', Nat.add_zero, Nat.mul_comm]
  · rw [hm, Nat.mul_add_mod, Nat.mod_eq_of_lt hc']

/-- **header_roundtrip** -/
theorem decHeader_encHeader (h : Header) (hw : h.wf) (rest : Bytes) :
    decHeader (encHeader h ++ rest) = .ok (h, rest) := by
  have hc := hw.2.2.2.2.2
  have hm := magic_tag hc
  rw [encHeader, decHeader_fields h hw _ hm.2.2, hm.2.1, if_neg (not_not_intro hm.1), if_neg (Nat.not_lt.mpr hc)]

/-- **header_rejects_bad_magic / bad_compression**: a 36-byte string whose last word is not
`magic | {0,1,2}` is never accepted as a header. -/
theorem decHeader_rejects (a b c d e : Nat) (v : Nat) (rest : Bytes)
    (ha : a < 2 ^ 32) (hb : b < 2 ^ 32) (hc : c < 2 ^ 64) (hd : d < 2 ^ 64) (he : e < 2 ^ 64) (hv : v < 2 ^ 32)
    (hbad : v / 256 * 256 ≠ ENTRY_MAGIC ∨ v % 256 > 2) :
    ∃ err, decHeader (encBE 4 a ++ encBE 4 b ++ encBE 8 c ++ encBE 8 d ++ encBE 8 e ++ encBE 4 v ++ rest) = .error err := by
  rw [decHeader_fields ⟨a, b, c, d, e, 0⟩ ⟨ha, hb, hc, hd, he, Nat.zero_le 2⟩ v hv]
  by_cases hm : v / 256 * 256 ≠ ENTRY_MAGIC
  · exact ⟨_, if_pos hm⟩
  · exact ⟨_, (if_neg hm).trans (if_pos (hbad.resolve_left hm))⟩

theorem decEntry_framed (cs : Bytes → Nat) (h : Header) (hw : h.wf) (payload pad : Bytes)
    (hlen : payload.length = h.valueLen + h.keyLen) :
    decEntry cs (encHeader h ++ payload ++ pad) =
      if cs payload ≠ h.checksum then .error .checksum
      else .ok (h, payload.take h.valueLen, (payload.drop h.valueLen).take h.keyLen) := by
  have h1 : ¬ (payload ++ pad).length < h.valueLen + h.keyLen := by
    rw [List.length_append, hlen]
    exact Nat.not_lt.mpr (Nat.le_add_right ..)
  have hv : h.valueLen ≤ payload.length := hlen ▸ Nat.le_add_right ..
  have hk : h.keyLen ≤ (payload.drop h.valueLen).length := by
    rw [List.length_drop, hlen, Nat.add_sub_cancel_left]
    exact Nat.le_refl _
  rw [decEntry, List.append_assoc, decHeader_encHeader _ hw]
  simp only [if_neg h1, List.take_left' hlen, List.take_append_of_le_length hv, List.drop_append_of_le_length hv,
    List.take_append_of_le_length hk]

/-- **entry_roundtrip**: an entry serialized with compression `none` is read back as exactly the
same key and value bytes, the recorded lengths being the bytes written — whatever follows it in
the page (padding / the next entry) and for any checksum function. -/
theorem decEntry_encEntry (cs : Bytes → Nat) (hash seq : Nat) (k v pad : Bytes)
    (hk : k.length < 2 ^ 32) (hv : v.length < 2 ^ 32) (hh : hash < 2 ^ 64) (hs : seq < 2 ^ 64)
    (hcs : cs (v ++ k) < 2 ^ 64) :
    decEntry cs (encEntry cs hash seq k v ++ pad) =
      .ok ({ keyLen := k.length, valueLen := v.length, hash, seq, checksum := cs (v ++ k), compression := 0 }, v, k) := by
  rw [encEntry, List.append_assoc _ v k,
    decEntry_framed cs _ ⟨hk, hv, hh, hs, hcs, Nat.zero_le 2⟩ (v ++ k) pad List.length_append, if_neg (not_not_intro rfl),
    List.take_left' rfl, List.drop_left' rfl, List.take_length]

/-- A flipped payload is never accepted if the checksum function tells the two payloads apart
(the idealisation of XxHash64 used by C03: `NoForgery`). -/
theorem decEntry_detects (cs : Bytes → Nat) (h : Header) (hw : h.wf) (payload pad : Bytes)
    (hlen : payload.length = h.valueLen + h.keyLen) (hcs : cs payload ≠ h.checksum) :
    decEntry cs (encHeader h ++ payload ++ pad) = .error .checksum := by
  rw [decEntry_framed cs h hw payload pad hlen, if_pos hcs]

/-- zstd / lz4: the round trip of the *compressed* value holds under the one hypothesis that the
codec is lossless (assumed of the `zstd` / `lz4` crates, exercised by the correspondence). -/
theorem compressed_value_roundtrip (compress decompress : Bytes → Bytes) (hloss : ∀ b, decompress (compress b) = b)
    (cs : Bytes → Nat) (hash seq : Nat) (k v pad : Bytes)
    (hk : k.length < 2 ^ 32) (hv : (compress v).length < 2 ^ 32) (hh : hash < 2 ^ 64) (hs : seq < 2 ^ 64)
    (hcs : cs (compress v ++ k) < 2 ^ 64) :
    ∃ h, decEntry cs (encEntry cs hash seq k (compress v) ++ pad) = .ok (h, compress v, k) ∧
      decompress (compress v) = v ∧ h.valueLen = (compress v).length ∧ h.keyLen = k.length :=
  ⟨_, decEntry_encEntry cs hash seq k (compress v) pad hk hv hh hs hcs, hloss v, rfl, rfl⟩

theorem le_alignUp {a : Nat} (ha : 0 < a) (n : Nat) : n ≤ alignUp a n := by
  have := Nat.lt_div_mul_add (a := n + a - 1) ha
  unfold alignUp
  omega

theorem alignUp_ge (n : Nat) : n ≤ alignUp PAGE n := le_alignUp (by decide) n

theorem alignUp_dvd (a n : Nat) : a ∣ alignUp a n := Nat.dvd_mul_left ..

theorem alignUp_le_of_dvd {a : Nat} (ha : 0 < a) {n m : Nat} (hm : a ∣ m) (h : n ≤ m) : alignUp a n ≤ m := by
  obtain ⟨q, rfl⟩ := hm
  have hq : (n + a - 1) / a < q + 1 := by
    rw [Nat.div_lt_iff_lt_mul ha, Nat.succ_mul, Nat.mul_comm q a]
    omega
  rw [alignUp, Nat.mul_comm a q]
  exact Nat.mul_le_mul_right a (Nat.le_of_lt_succ hq)

/-- **push_all_or_nothing**: a push either records the whole entry (`len = 36 + key_len + value_len`,
at the old `written`, advancing by the aligned length) or changes nothing. -/
theorem push_all_or_nothing (b : Buf) (hash seq klen vlen : Nat) :
    ((b.push hash seq klen vlen).2 = false ∧ (b.push hash seq klen vlen).1 = b) ∨
    ((b.push hash seq klen vlen).2 = true ∧
      (b.push hash seq klen vlen).1.infos = b.infos ++ [(hash, seq, b.written, HEADER_LEN + klen + vlen)] ∧
      (b.push hash seq klen vlen).1.written = b.written + alignUp PAGE (HEADER_LEN + klen + vlen) ∧
      alignUp PAGE (HEADER_LEN + klen + vlen) ≤ b.maxEntry ∧
      HEADER_LEN + klen + vlen ≤ b.cap - b.written) := by
  by_cases h1 : b.cap - b.written < HEADER_LEN
  · exact .inl (by simp only [Buf.push, if_pos h1, and_self])
  · by_cases h2 : b.cap - b.written - HEADER_LEN < klen + vlen
    · exact .inl (by simp only [Buf.push, if_neg h1, if_pos h2, and_self])
    · by_cases h3 : alignUp PAGE (HEADER_LEN + klen + vlen) > b.maxEntry
      · exact .inl (by simp only [Buf.push, if_neg h1, if_neg h2, if_pos h3, and_self])
      · refine .inr ?_
        simp only [Buf.push, if_neg h1, if_neg h2, if_neg h3, true_and]
        exact ⟨Nat.le_of_not_lt h3, Nat.add_assoc .. ▸ Nat.add_le_of_le_sub' (Nat.le_of_not_lt h1) (Nat.le_of_not_lt h2)⟩

/-- Accepted entries never run past the io buffer and keep everything page-aligned. -/
theorem push_within (b : Buf) (hash seq klen vlen : Nat) (hc : PAGE ∣ b.cap) (hw : PAGE ∣ b.written)
    (hle : b.written ≤ b.cap) :
    PAGE ∣ (b.push hash seq klen vlen).1.written ∧ (b.push hash seq klen vlen).1.written ≤ b.cap := by
  rcases push_all_or_nothing b hash seq klen vlen with ⟨_, h⟩ | ⟨_, _, h, _, hroom⟩
  · rw [h]
    exact ⟨hw, hle⟩
  · rw [h]
    -- the entry fitted the remaining room, which is a whole number of pages
    exact ⟨Nat.dvd_add hw (alignUp_dvd ..),
      Nat.add_le_of_le_sub' hle (alignUp_le_of_dvd (by decide) (Nat.dvd_sub hc hw) hroom)⟩

example : encLE 8 0x0102030405060708 = [8, 7, 6, 5, 4, 3, 2, 1] := by decide
example : encBE 4 0x97032701 = [0x97, 0x03, 0x27, 0x01] := by decide
example : encInt 2 (-2) = [254, 255] := by decide
example : decInt 2 [254, 255, 9] = some (-2, [9]) := by decide
example : (decHeader (encHeader ⟨8, 100, 7, 3, 99, 1⟩ ++ [1, 2])) = .ok (⟨8, 100, 7, 3, 99, 1⟩, [1, 2]) := by rfl
example : (({ cap := 8192, written := 0, maxEntry := 4096, infos := [] } : Buf).push 1 1 8 5000).2 = false := by decide
example : (({ cap := 8192, written := 0, maxEntry := 8192, infos := [] } : Buf).push 1 1 8 5000).1.written = 8192 := by decide

end Foyer.Codec
