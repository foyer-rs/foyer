import FoyerProofs.Lemmas.IndexFold
/-
  What a flusher batch does to the device log, the tombstone log (`applyBatch_disk`, `applyBatch_tombs`) and the
  index entry of one hash (`applyBatch_lookup`), and what appending one
  more submission to a batch changes, when sequences are handed out in increasing order.
-/
namespace Foyer.Hyb

/-- the `ents` of `applyBatch` -/
def entsOf (b : List Sub) : List DiskEnt := b.filterMap fun q => match q with
  | .entry e true => some e
  | _ => none

/-- the `tbs` of `applyBatch` -/
def tbsOf (b : List Sub) : List (Nat × Nat) := b.filterMap fun q => match q with
  | .tomb h sq => some (h, sq)
  | .entry e false => some (e.hash, e.seq)
  | _ => none

theorem mem_entsOf {b : List Sub} {e : DiskEnt} : e ∈ entsOf b ↔ Sub.entry e true ∈ b := by
  unfold entsOf
  rw [List.mem_filterMap]
  constructor
  · rintro ⟨q, hq, he⟩
    cases q with
    | entry e' f =>
      cases f with
      | true => cases he; exact hq
      | false => cases he
    | tomb _ _ => cases he
  · intro h
    exact ⟨.entry e true, h, rfl⟩

theorem applyBatch_disk {σ : Type} (hc : HCfg) (s : HState σ) (b : List Sub) :
    (applyBatch hc s b).disk = s.disk ++ entsOf b := rfl

theorem mem_applyBatch_disk {σ : Type} (hc : HCfg) (s : HState σ) (b : List Sub) {e : DiskEnt} :
    e ∈ (applyBatch hc s b).disk ↔ e ∈ s.disk ∨ Sub.entry e true ∈ b := by
  rw [applyBatch_disk, List.mem_append, mem_entsOf]

theorem applyBatch_tombs {σ : Type} (hc : HCfg) (s : HState σ) (b : List Sub) (ht : hc.tombLog = true) :
    (applyBatch hc s b).tombs = s.tombs ++ tbsOf b := by
  unfold applyBatch tbsOf
  simp only [ht, if_true]
  rfl

theorem applyBatch_nil {σ : Type} (hc : HCfg) (s : HState σ) : applyBatch hc s [] = s := by
  have hk : (s.keeper.filter fun _ => true) = s.keeper := List.filter_eq_self.mpr fun _ _ => rfl
  cases s
  simp only [applyBatch, List.filterMap_nil, List.foldl_nil, List.append_nil, List.any_nil, Bool.not_false, ite_self] at hk ⊢
  rw [hk]

/-- the index entry of hash `h` after a batch, from the entry before it -/
def lookupAfter (cur : Option Idx) (b : List Sub) (h : Nat) : Option Idx :=
  (((tbsOf b).filter fun p => p.1 = h).map (·.2)).foldl remOne
    ((((entsOf b).filter fun e => e.hash = h).map Idx.addr).foldl insOne cur)

theorem applyBatch_lookup {σ : Type} (hc : HCfg) (s : HState σ) (b : List Sub) (h : Nat) :
    assocGet (applyBatch hc s b).index h = lookupAfter (assocGet s.index h) b h := by
  unfold applyBatch lookupAfter
  simp only
  have hfun : (fun (ix : List (Nat × Idx)) (x : Nat × Nat) => match x with | (h, sq) => indexRemoveSeq ix h sq) =
      (fun ix (p : Nat × Nat) => indexRemoveSeq ix p.1 p.2) := by
    funext ix x; cases x; rfl
  rw [hfun, assocGet_foldl_indexRemoveSeq, assocGet_foldl_indexInsert (fun e => e.hash) (fun e => Idx.addr e)]
  rfl

theorem entsOf_append (b c : List Sub) : entsOf (b ++ c) = entsOf b ++ entsOf c := by
  unfold entsOf; rw [List.filterMap_append]

theorem tbsOf_append (b c : List Sub) : tbsOf (b ++ c) = tbsOf b ++ tbsOf c := by
  unfold tbsOf; rw [List.filterMap_append]

/-- every sequence number occurring in the batch for hash `h` (and in `cur`) is below `n` -/
def batchLt (cur : Option Idx) (b : List Sub) (h n : Nat) : Prop :=
  seqLt cur n ∧ (∀ e ∈ entsOf b, e.hash = h → e.seq < n) ∧ (∀ p ∈ tbsOf b, p.1 = h → p.2 < n)

theorem batchLt_nil {cur : Option Idx} {h n : Nat} (hc : seqLt cur n) : batchLt cur [] h n :=
  ⟨hc, fun _ he _ => (by cases he), fun _ hp _ => (by cases hp)⟩

theorem foldl_insOne_entsOf_seqLt {cur : Option Idx} {b : List Sub} {h n : Nat} (hb : batchLt cur b h n) :
    seqLt ((((entsOf b).filter fun e => e.hash = h).map Idx.addr).foldl insOne cur) n := by
  apply foldl_insOne_seqLt hb.1
  intro i hi
  simp only [List.mem_map, List.mem_filter, decide_eq_true_eq] at hi
  obtain ⟨e, ⟨he, hh⟩, hie⟩ := hi
  rw [← hie]
  exact hb.2.1 e he hh

theorem lookupAfter_seqLt {cur : Option Idx} {b : List Sub} {h n : Nat} (hb : batchLt cur b h n) :
    seqLt (lookupAfter cur b h) n := by
  unfold lookupAfter
  exact foldl_remOne_seqLt (foldl_insOne_entsOf_seqLt hb)

def Sub.hashOf : Sub → Nat
  | .entry e _ => e.hash
  | .tomb h _ => h

def Sub.seqOf : Sub → Nat
  | .entry e _ => e.seq
  | .tomb _ q => q

/-- the flusher writes it as an entry (a tombstone, or an entry it drops, acts as a tombstone) -/
def Sub.fits : Sub → Bool
  | .entry _ f => f
  | .tomb _ _ => false

theorem lookupAfter_append_entry {cur : Option Idx} {b : List Sub} (e : DiskEnt) (hb : batchLt cur b e.hash e.seq) :
    lookupAfter cur (b ++ [.entry e true]) e.hash = some (.addr e) := by
  unfold lookupAfter
  rw [entsOf_append, tbsOf_append]
  have he : entsOf [Sub.entry e true] = [e] := rfl
  have ht : tbsOf [Sub.entry e true] = [] := rfl
  rw [he, ht, List.append_nil]
  simp only [List.filter_append, List.filter_cons, decide_true, if_true, List.filter_nil, List.map_append,
    List.map_cons, List.map_nil, List.foldl_append, List.foldl_cons, List.foldl_nil]
  rw [insOne_top (foldl_insOne_entsOf_seqLt hb)]
  apply foldl_remOne_keep
  intro q hq
  simp only [List.mem_map, List.mem_filter, decide_eq_true_eq] at hq
  obtain ⟨p, ⟨hp, hph⟩, hpq⟩ := hq
  rw [← hpq]
  exact hb.2.2 p hp hph

theorem entsOf_single_tomb {x : Sub} (hx : x.fits = false) : entsOf [x] = [] := by
  cases x with
  | entry e f => cases hx; rfl
  | tomb _ _ => rfl

theorem tbsOf_single_tomb {x : Sub} (hx : x.fits = false) : tbsOf [x] = [(x.hashOf, x.seqOf)] := by
  cases x with
  | entry e f => cases hx; rfl
  | tomb _ _ => rfl

theorem lookupAfter_append_tomb {cur : Option Idx} {b : List Sub} (x : Sub) (hx : x.fits = false)
    (hb : batchLt cur b x.hashOf (x.seqOf + 1)) : lookupAfter cur (b ++ [x]) x.hashOf = none := by
  unfold lookupAfter
  rw [entsOf_append, tbsOf_append]
  rw [entsOf_single_tomb hx, tbsOf_single_tomb hx, List.append_nil]
  simp only [List.filter_append, List.filter_cons, decide_true, if_true, List.filter_nil, List.map_append,
    List.map_cons, List.map_nil, List.foldl_append, List.foldl_cons, List.foldl_nil]
  exact remOne_top (foldl_remOne_seqLt (foldl_insOne_entsOf_seqLt hb))

theorem lookupAfter_addr {cur : Option Idx} {b : List Sub} {h : Nat} {e : DiskEnt}
    (hr : lookupAfter cur b h = some (.addr e)) : cur = some (.addr e) ∨ (e ∈ entsOf b ∧ e.hash = h) := by
  unfold lookupAfter at hr
  have h1 := foldl_remOne_sub hr
  rcases (foldl_insOne_max h1).1 with h2 | h2
  · right
    simp only [List.mem_map, List.mem_filter, decide_eq_true_eq, Idx.addr.injEq] at h2
    obtain ⟨a, ⟨ha, hah⟩, hae⟩ := h2
    subst hae
    exact ⟨ha, hah⟩
  · left; exact h2

theorem lookupAfter_nil (cur : Option Idx) (h : Nat) : lookupAfter cur [] h = cur := rfl

theorem mem_entsOf_single {x : Sub} {e : DiskEnt} (h : e ∈ entsOf [x]) : e.hash = x.hashOf ∧ e.seq = x.seqOf := by
  cases x with
  | entry e' f =>
    cases f with
    | true =>
      have : entsOf [Sub.entry e' true] = [e'] := rfl
      rw [this, List.mem_singleton] at h
      subst h
      exact ⟨rfl, rfl⟩
    | false => cases h
  | tomb th tq => cases h

theorem mem_tbsOf_single {x : Sub} {p : Nat × Nat} (h : p ∈ tbsOf [x]) : p = (x.hashOf, x.seqOf) := by
  cases x with
  | entry e' f =>
    cases f with
    | true => cases h
    | false => exact List.mem_singleton.mp h
  | tomb th tq => exact List.mem_singleton.mp h

theorem lookupAfter_append_other {cur : Option Idx} {b : List Sub} {x : Sub} {h : Nat} (hx : h ≠ x.hashOf) :
    lookupAfter cur (b ++ [x]) h = lookupAfter cur b h := by
  have he : (entsOf [x]).filter (fun e => e.hash = h) = [] := by
    rw [List.filter_eq_nil_iff]
    intro e he
    rw [(mem_entsOf_single he).1]
    simpa using fun e => hx e.symm
  have ht : (tbsOf [x]).filter (fun p => p.1 = h) = [] := by
    rw [List.filter_eq_nil_iff]
    intro p hp
    rw [mem_tbsOf_single hp]
    simpa using fun e => hx e.symm
  unfold lookupAfter
  rw [entsOf_append, tbsOf_append, List.filter_append, List.filter_append, he, ht, List.append_nil, List.append_nil]

theorem batchLt_mono {cur : Option Idx} {b : List Sub} {h n m : Nat} (hb : batchLt cur b h n) (hnm : n ≤ m) :
    batchLt cur b h m :=
  ⟨fun i hi => Nat.lt_of_lt_of_le (hb.1 i hi) hnm,
   fun e he hh => Nat.lt_of_lt_of_le (hb.2.1 e he hh) hnm,
   fun p hp hh => Nat.lt_of_lt_of_le (hb.2.2 p hp hh) hnm⟩

theorem batchLt_append {cur : Option Idx} {b : List Sub} {h n : Nat} (hb : batchLt cur b h n) (x : Sub)
    (hx : x.seqOf < n) : batchLt cur (b ++ [x]) h n := by
  refine ⟨hb.1, ?_, ?_⟩
  · intro e he hh
    rw [entsOf_append] at he
    rcases List.mem_append.mp he with h1 | h1
    · exact hb.2.1 e h1 hh
    · rw [(mem_entsOf_single h1).2]; exact hx
  · intro p hp hh
    rw [tbsOf_append] at hp
    rcases List.mem_append.mp hp with h1 | h1
    · exact hb.2.2 p h1 hh
    · rw [mem_tbsOf_single h1]; exact hx

theorem batchLt_cur {cur cur' : Option Idx} {b : List Sub} {h n : Nat} (hb : batchLt cur b h n) (hc : seqLt cur' n) :
    batchLt cur' b h n := ⟨hc, hb.2.1, hb.2.2⟩

/-- **A newest tombstone (a delete, or an entry the flusher drops) enters the index and the queue**: its hash
loses its entry, other hashes are untouched, sequences stay below the counter. -/
theorem lookupAfter_newTomb {ix : List (Nat × Idx)} {b : List Sub} {h : Nat} (x : Sub) (hx : x.fits = false)
    (hb : batchLt (assocGet ix h) b h x.seqOf) :
    lookupAfter (assocGet (indexInsert ix x.hashOf (.tomb x.seqOf)) h) (b ++ [x]) h =
      (if h = x.hashOf then none else lookupAfter (assocGet ix h) b h) ∧
    batchLt (assocGet (indexInsert ix x.hashOf (.tomb x.seqOf)) h) (b ++ [x]) h (x.seqOf + 1) := by
  rw [assocGet_indexInsert]
  by_cases hh : h = x.hashOf
  · subst hh
    rw [if_pos rfl, if_pos rfl]
    have hb' := batchLt_cur (batchLt_mono hb (Nat.le_succ _))
      (insOne_seqLt (i := .tomb x.seqOf) (fun i hi => Nat.lt_succ_of_lt (hb.1 i hi)) (Nat.lt_succ_self _))
    exact ⟨lookupAfter_append_tomb x hx hb', batchLt_append hb' x (Nat.lt_succ_self _)⟩
  · rw [if_neg hh, if_neg hh]
    exact ⟨lookupAfter_append_other hh,
      batchLt_append (batchLt_mono hb (Nat.le_succ _)) x (Nat.lt_succ_self _)⟩

end Foyer.Hyb
