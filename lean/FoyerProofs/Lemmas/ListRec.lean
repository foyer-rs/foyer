import FoyerModel.Basic
import FoyerProofs.Lemmas.ListPerm
/-
  The association-list helpers of `FoyerModel.Basic` are core `List` functions (`filter`, `find?`,
  `sum ∘ map`); saying so once hands their lemmas over to core and to `Lemmas/ListPerm`.
  `perm_eraseKey`: under distinct keys, erasing a key removes exactly the record found for it.
-/
namespace Foyer

theorem eraseKey_eq_filter (k : Nat) (l : List Rec) : eraseKey k l = l.filter (·.key ≠ k) := by
  induction l with
  | nil => rfl
  | cons x xs ih => by_cases h : x.key = k <;> simp [eraseKey, h, ih]

theorem findKey_eq_find? (k : Nat) (l : List Rec) : findKey k l = l.find? (·.key = k) := by
  induction l with
  | nil => rfl
  | cons x xs ih => by_cases h : x.key = k <;> simp [findKey, h, ih]

theorem wsum_eq_sum (l : List Rec) : wsum l = (l.map (·.weight)).sum := by
  induction l with
  | nil => rfl
  | cons x xs ih => simp [wsum, ih]

theorem wsum_perm {a b : List Rec} (h : a.Perm b) : wsum a = wsum b := by
  rw [wsum_eq_sum, wsum_eq_sum]
  exact (h.map _).sum_nat

theorem wsum_append (a b : List Rec) : wsum (a ++ b) = wsum a + wsum b := by
  simp [wsum_eq_sum]

theorem findKey_some {k : Nat} {l : List Rec} {r : Rec} (h : findKey k l = some r) :
    r ∈ l ∧ r.key = k := by
  rw [findKey_eq_find?] at h
  exact find?_key (f := Rec.key) h

theorem findKey_none {k : Nat} {l : List Rec} : findKey k l = none ↔ ∀ r ∈ l, r.key ≠ k := by
  simp [findKey_eq_find?]

theorem mem_eraseKey {k : Nat} {l : List Rec} {x : Rec} : x ∈ eraseKey k l ↔ x ∈ l ∧ x.key ≠ k := by
  simp [eraseKey_eq_filter]

theorem eraseKey_of_not_mem {k : Nat} {l : List Rec} (h : ∀ r ∈ l, r.key ≠ k) : eraseKey k l = l := by
  rw [eraseKey_eq_filter, List.filter_eq_self]
  intro r hr
  simpa using h r hr

def keysNodup (l : List Rec) : Prop := (l.map (·.key)).Nodup

theorem keysNodup_cons {x : Rec} {l : List Rec} :
    keysNodup (x :: l) ↔ (∀ r ∈ l, r.key ≠ x.key) ∧ keysNodup l := by
  unfold keysNodup
  simp only [List.map_cons, List.nodup_cons, List.mem_map, not_exists, not_and]

theorem keysNodup_eraseKey {k : Nat} {l : List Rec} (h : keysNodup l) : keysNodup (eraseKey k l) := by
  rw [eraseKey_eq_filter]
  exact List.Nodup.sublist (List.filter_sublist.map _) h

theorem nodup_of_keysNodup {l : List Rec} (h : keysNodup l) : l.Nodup :=
  List.Pairwise.of_map (fun r : Rec => r.key) (fun _ _ hab e => hab (by rw [e])) h

theorem findKey_of_mem {l : List Rec} {r : Rec} (hn : keysNodup l) (hr : r ∈ l) :
    findKey r.key l = some r := by
  induction l with
  | nil => cases hr
  | cons y ys ih =>
    rw [keysNodup_cons] at hn
    simp only [findKey]
    rcases List.mem_cons.mp hr with rfl | h
    · simp
    · have : y.key ≠ r.key := fun e => hn.1 r h e.symm
      simp only [this, if_false]
      exact ih hn.2 h

theorem eq_of_key_eq {l : List Rec} {x y : Rec} (hn : keysNodup l) (hx : x ∈ l) (hy : y ∈ l)
    (hk : x.key = y.key) : x = y := eq_of_map_eq hn hx hy hk

theorem perm_eraseKey {k : Nat} {l : List Rec} {r : Rec} (hn : keysNodup l) (h : findKey k l = some r) :
    l.Perm (r :: eraseKey k l) := by
  obtain ⟨hr, rfl⟩ := findKey_some h
  rw [eraseKey_eq_filter]
  exact perm_cons_filter Rec.key l r hn hr

end Foyer
