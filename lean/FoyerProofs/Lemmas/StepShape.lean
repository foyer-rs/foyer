import FoyerProofs.Lemmas.StepOps
/-
  The shape of a step.  Every `Cache.step` is `mapShards F` for some `F` that rewrites each shard by one
  of eight *shard moves* (`ShardMove`); a single-shard operation is the map that stays put elsewhere
  (`mapShards_one`).  `step_shape` analyses `Cache.step` operation by operation.  A theorem about all steps
  is a fact about each shard move (one `cases`), carried to the cache by `StepShape.of_getElem?`,
  `of_mem_leaves`, `of_mem_adm`.  `ShardMove.spec`: every move keeps the shard invariant, never panics, and
  conserves records.
-/
namespace Foyer

variable {σ : Type} {P : Policy σ} {Ok : σ → Prop}

/-- What `ShardMove.stay` says of a shard the operation leaves alone: only what a user needs, that it is not
the shard of a handle dropped last. -/
def Untouched (cfg : Cfg) (c : Cache σ) (j : Nat) : Op → Prop
  | .drop rid => ∀ r, heldFind c.held rid = some r → heldCnt c.held r ≤ 1 → r.phantom = false → j ≠ cfg.shardOf r.hash
  | _ => True

/-- `resize`, `evictAll` and `flush` run the eviction loop on every shard: `resize` on the shard `t` with its new
capacity as `target`, the other two on the shard as it is with target 0. -/
inductive EvictPrep (P : Policy σ) (c : Cache σ) (j : Nat) (s : Shard σ) : Op → Shard σ → Nat → Prop
  | resize (cap : Nat) : EvictPrep P c j s (.resize cap)
      { s with ev := P.update s.ev (shardCapacityFor cap c.shards.length j),
               cap := shardCapacityFor cap c.shards.length j }
      (shardCapacityFor cap c.shards.length j)
  | all {op : Op} : op = .evictAll ∨ op = .flush → EvictPrep P c j s op s 0

theorem EvictPrep.moves (L : Lawful P Ok) {c : Cache σ} {j : Nat} {s t : Shard σ} {op : Op} {target : Nat}
    (hp : EvictPrep P c j s op t target) (h : ShardInv P Ok s) : Moves P Ok s t [] [] := by
  cases hp with
  | resize cap => exact update_moves L h _
  | all => exact Moves.refl h

/-- The `List Rec` is what the move admits into the shard. -/
inductive ShardMove (P : Policy σ) (cfg : Cfg) (c : Cache σ) (j : Nat) (s : Shard σ) :
    Op → List Rec → Shard σ × List (Reason × Rec) × Bool → Prop
  | stay (op : Op) : Untouched cfg c j op → ShardMove P cfg c j s op [] (s, [], false)
  | emplace (key ver weight : Nat) (hint : Hint) (phantom : Bool) (loc : Loc) (age : Age) :
      j = cfg.shardOf (cfg.H key) →
      ShardMove P cfg c j s (.ins key ver weight hint phantom loc age)
        (if phantom then [] else [{ id := c.nextId, key, hash := cfg.H key, ver, weight, hint, phantom, loc, age }])
        (Shard.emplace P s { id := c.nextId, key, hash := cfg.H key, ver, weight, hint, phantom, loc, age })
  | acquire {key : Nat} {r : Rec} : j = cfg.shardOf (cfg.H key) → findKey key s.index = some r →
      ShardMove P cfg c j s (.get key) [] ({ s with ev := P.acquire s.ev r }, [], false)
  | touch {key : Nat} {r : Rec} : j = cfg.shardOf (cfg.H key) → findKey key s.index = some r →
      ShardMove P cfg c j s (.touch key) []
        (if heldCnt c.held r = 0 then { s with ev := P.release (P.acquire s.ev r) r } else { s with ev := P.acquire s.ev r },
         [], false)
  | unlink {key : Nat} {r : Rec} : j = cfg.shardOf (cfg.H key) → findKey key s.index = some r →
      ShardMove P cfg c j s (.remove key) [] (Shard.unlink P s r, [(.remove, r)], false)
  | release {rid : Nat} {r : Rec} : heldFind c.held rid = some r → heldCnt c.held r ≤ 1 → r.phantom = false →
      j = cfg.shardOf r.hash →
      ShardMove P cfg c j s (.drop rid) [] ({ s with ev := P.release s.ev r }, [], false)
  | clear : ShardMove P cfg c j s .clear []
      ({ s with index := [], ev := P.clear s.ev, usage := 0, entries := 0 }, s.index.map fun r => (Reason.clear, r), false)
  | evict {op : Op} (t : Shard σ) (target : Nat) : EvictPrep P c j s op t target →
      ShardMove P cfg c j s op []
        (let e := Shard.evict P t target
         (e.1, e.2.1.map fun v => (Reason.evict, v), e.2.2))

/-- The step rewrites shard `j` by `F j`, which is a shard move admitting the records `A j`. -/
structure StepShape (P : Policy σ) (cfg : Cfg) (c : Cache σ) (op : Op)
    (F : Nat → Shard σ → Shard σ × List (Reason × Rec) × Bool) (A : Nat → List Rec) : Prop where
  move : ∀ j s, c.shards[j]? = some s → ShardMove P cfg c j s op (A j) (F j s)
  admitted : admittedOf op (Cache.step P cfg c op).2 =
    if (Cache.step P cfg c op).2.ret = .panic then [] else (List.range c.shards.length).flatMap A
  nextId_le : c.nextId ≤ (Cache.step P cfg c op).1.nextId
  nextId_succ : (List.range c.shards.length).flatMap A ≠ [] → (Cache.step P cfg c op).1.nextId = c.nextId + 1
  shards : (Cache.step P cfg c op).1.shards = (mapShards F 0 c.shards).1
  /-- a disk-only record whose last handle is dropped is reported without any shard being touched -/
  leaves : (Cache.step P cfg c op).2.leaves = (mapShards F 0 c.shards).2.1 ∨
    ∃ rid r, op = .drop rid ∧ heldFind c.held rid = some r ∧ r.phantom = true ∧
      (Cache.step P cfg c op).2.leaves = [(.evict, r)] ∧ (mapShards F 0 c.shards).2.1 = []
  panic : (Cache.step P cfg c op).2.ret = .panic → (mapShards F 0 c.shards).2.2 = true
  piped : (Cache.step P cfg c op).2.piped = evictedOf (Cache.step P cfg c op).2.leaves

theorem StepShape.shards_getElem? {cfg : Cfg} {c : Cache σ} {op : Op} {F A} (sh : StepShape P cfg c op F A) (j : Nat) :
    (Cache.step P cfg c op).1.shards[j]? = (c.shards[j]?).map fun s => (F j s).1 := by
  rw [sh.shards, mapShards_getElem?, Nat.zero_add]

theorem StepShape.of_getElem? {cfg : Cfg} {c : Cache σ} {op : Op} {F A} (sh : StepShape P cfg c op F A) {j : Nat}
    {t : Shard σ} (ht : (Cache.step P cfg c op).1.shards[j]? = some t) :
    ∃ s, c.shards[j]? = some s ∧ ShardMove P cfg c j s op (A j) (F j s) ∧ (F j s).1 = t := by
  rw [sh.shards_getElem?] at ht
  obtain ⟨s, hs, rfl⟩ := Option.map_eq_some_iff.mp ht
  exact ⟨s, hs, sh.move j s hs, rfl⟩

theorem StepShape.of_mem_leaves {cfg : Cfg} {c : Cache σ} {op : Op} {F A} (sh : StepShape P cfg c op F A)
    {x : Reason × Rec} (hx : x ∈ (Cache.step P cfg c op).2.leaves) :
    (∃ j s, c.shards[j]? = some s ∧ ShardMove P cfg c j s op (A j) (F j s) ∧ x ∈ (F j s).2.1) ∨
    ∃ rid r, op = .drop rid ∧ heldFind c.held rid = some r ∧ r.phantom = true ∧ x = (.evict, r) := by
  rcases sh.leaves with hl | ⟨rid, r, hop, hf, hph, hl, _⟩
  · rw [hl] at hx
    obtain ⟨j, s, hs, hx⟩ := mem_leaves_mapShards hx
    rw [Nat.zero_add] at hx
    exact Or.inl ⟨j, s, hs, sh.move j s hs, hx⟩
  · rw [hl] at hx
    exact Or.inr ⟨rid, r, hop, hf, hph, List.mem_singleton.mp hx⟩

theorem StepShape.of_mem_adm {cfg : Cfg} {c : Cache σ} {op : Op} {F A} (sh : StepShape P cfg c op F A) {j : Nat}
    {s : Shard σ} (hs : c.shards[j]? = some s) {x : Rec} (hx : x ∈ A j) :
    (Cache.step P cfg c op).1.nextId = c.nextId + 1 ∧
    ((Cache.step P cfg c op).2.ret ≠ .panic → x ∈ admittedOf op (Cache.step P cfg c op).2) := by
  have hm : x ∈ (List.range c.shards.length).flatMap A :=
    List.mem_flatMap.mpr ⟨j, List.mem_range.mpr (List.getElem?_eq_some_iff.mp hs).1, hx⟩
  exact ⟨sh.nextId_succ (List.ne_nil_of_mem hm), fun hp => by rw [sh.admitted, if_neg hp]; exact hm⟩

theorem flatMap_range_single {α : Type} (X : List α) (i : Nat) :
    ∀ n, (List.range n).flatMap (fun j => if j = i then X else []) = if i < n then X else [] := by
  intro n
  induction n with
  | zero => simp
  | succ n ih =>
    rw [List.range_succ, List.flatMap_append, ih]
    by_cases h1 : i < n
    · have : n ≠ i := by omega
      simp [h1, this, Nat.lt_succ_of_lt h1]
    · by_cases h2 : n = i
      · subst h2; simp
      · have : ¬ i < n + 1 := by omega
        simp [h1, h2, this]

section shape
variable (P) (cfg : Cfg) (c : Cache σ)

/- The facts about the step come as one conjunction, so that one `simp` per case of `step_shape` computes them
from the model. -/

private theorem shape_unchanged {op : Op} (hu : ∀ j s, c.shards[j]? = some s → Untouched cfg c j op)
    (h : (Cache.step P cfg c op).1.shards = c.shards ∧ (Cache.step P cfg c op).2.leaves = [] ∧
      (Cache.step P cfg c op).2.ret ≠ .panic ∧ admittedOf op (Cache.step P cfg c op).2 = [] ∧
      (Cache.step P cfg c op).1.nextId = c.nextId ∧ (Cache.step P cfg c op).2.piped = []) :
    ∃ F A, StepShape P cfg c op F A := by
  obtain ⟨hshards, hleaves, hret, hadm, hnext, hpiped⟩ := h
  have hm : mapShards (fun _ (t : Shard σ) => (t, ([] : List (Reason × Rec)), false)) 0 c.shards = (c.shards, [], false) :=
    mapShards_stay fun _ _ _ => rfl
  exact ⟨fun _ t => (t, [], false), fun _ => [],
    { move := fun j s hs => .stay op (hu j s hs)
      admitted := by rw [hadm]; simp
      nextId_le := Nat.le_of_eq hnext.symm
      nextId_succ := fun h => absurd (by simp) h
      shards := by rw [hm]; exact hshards
      leaves := Or.inl (by rw [hm]; exact hleaves)
      panic := fun h => absurd h hret
      piped := by rw [hpiped, hleaves]; rfl }⟩

private theorem shape_single {op : Op} {i : Nat} {s : Shard σ} (hs : c.shards[i]? = some s)
    {res : Shard σ × List (Reason × Rec) × Bool} {adm : List Rec} (hm : ShardMove P cfg c i s op adm res)
    (hu : ∀ j t, c.shards[j]? = some t → j ≠ i → Untouched cfg c j op)
    (h : (Cache.step P cfg c op).1.shards = setAt c.shards i res.1 ∧ (Cache.step P cfg c op).2.leaves = res.2.1 ∧
      ((Cache.step P cfg c op).2.ret = .panic → res.2.2 = true) ∧
      (admittedOf op (Cache.step P cfg c op).2 = if (Cache.step P cfg c op).2.ret = .panic then [] else adm) ∧
      c.nextId ≤ (Cache.step P cfg c op).1.nextId ∧ (adm ≠ [] → (Cache.step P cfg c op).1.nextId = c.nextId + 1) ∧
      (Cache.step P cfg c op).2.piped = evictedOf res.2.1) :
    ∃ F A, StepShape P cfg c op F A := by
  obtain ⟨hshards, hleaves, hpanic, hadm, hle, hsucc, hpiped⟩ := h
  have hi := (List.getElem?_eq_some_iff.mp hs).1
  have hmap : mapShards (fun j t => if j = 0 + i then res else (t, [], false)) 0 c.shards =
      (setAt c.shards i res.1, res.2.1, res.2.2) := mapShards_one res hi
  have hA : (List.range c.shards.length).flatMap (fun j => if j = i then adm else []) = adm := by
    rw [flatMap_range_single, if_pos hi]
  refine ⟨fun j t => if j = 0 + i then res else (t, [], false), fun j => if j = i then adm else [],
    { move := fun j t ht => ?_
      admitted := by rw [hA]; exact hadm
      nextId_le := hle
      nextId_succ := by rw [hA]; exact hsucc
      shards := by rw [hmap]; exact hshards
      leaves := Or.inl (by rw [hmap]; exact hleaves)
      panic := by rw [hmap]; exact hpanic
      piped := by rw [hpiped, hleaves] }⟩
  show ShardMove P cfg c j t op (if j = i then adm else []) (if j = 0 + i then res else (t, [], false))
  rw [Nat.zero_add]
  by_cases hj : j = i
  · rw [if_pos hj, if_pos hj]
    subst hj
    rw [hs] at ht; cases ht
    exact hm
  · rw [if_neg hj, if_neg hj]; exact .stay op (hu j t ht hj)

theorem step_shape (op : Op) : ∃ F A, StepShape P cfg c op F A := by
  cases op with
  | ins key ver weight hint phantom loc age =>
    cases hs : c.shards[cfg.shardOf (cfg.H key)]? with
    | none => exact shape_unchanged P cfg c (fun _ _ _ => trivial) (by simp [Cache.step, hs, admittedOf])
    | some s =>
      refine shape_single P cfg c hs (.emplace key ver weight hint phantom loc age rfl) (fun _ _ _ _ => trivial) ?_
      cases hp : (Shard.emplace P s { id := c.nextId, key, hash := cfg.H key, ver, weight, hint, phantom, loc, age }).2.2 with
      | false =>
        cases phantom with
        | false => simp [Cache.step, hs, hp, admittedOf]
        | true => simp [Cache.step, hs, hp, admittedOf]
      | true =>
        cases phantom with
        | false => simp [Cache.step, hs, hp, admittedOf]
        | true => simp [Cache.step, hs, hp, admittedOf]
  | get key =>
    cases hs : c.shards[cfg.shardOf (cfg.H key)]? with
    | none => exact shape_unchanged P cfg c (fun _ _ _ => trivial) (by simp [Cache.step, hs, admittedOf])
    | some s =>
      cases hf : findKey key s.index with
      | none => exact shape_unchanged P cfg c (fun _ _ _ => trivial) (by simp [Cache.step, hs, hf, admittedOf])
      | some r =>
        exact shape_single P cfg c hs (.acquire rfl hf) (fun _ _ _ _ => trivial)
          (by simp [Cache.step, hs, hf, admittedOf, evictedOf])
  | touch key =>
    cases hs : c.shards[cfg.shardOf (cfg.H key)]? with
    | none => exact shape_unchanged P cfg c (fun _ _ _ => trivial) (by simp [Cache.step, hs, admittedOf])
    | some s =>
      cases hf : findKey key s.index with
      | none => exact shape_unchanged P cfg c (fun _ _ _ => trivial) (by simp [Cache.step, hs, hf, admittedOf])
      | some r =>
        exact shape_single P cfg c hs (.touch rfl hf) (fun _ _ _ _ => trivial)
          (by simp [Cache.step, hs, hf, admittedOf, evictedOf])
  | contains key =>
    cases hs : c.shards[cfg.shardOf (cfg.H key)]? with
    | none => exact shape_unchanged P cfg c (fun _ _ _ => trivial) (by simp [Cache.step, hs, admittedOf])
    | some s => exact shape_unchanged P cfg c (fun _ _ _ => trivial) (by simp [Cache.step, hs, admittedOf])
  | remove key =>
    cases hs : c.shards[cfg.shardOf (cfg.H key)]? with
    | none => exact shape_unchanged P cfg c (fun _ _ _ => trivial) (by simp [Cache.step, hs, admittedOf])
    | some s =>
      cases hf : findKey key s.index with
      | none => exact shape_unchanged P cfg c (fun _ _ _ => trivial) (by simp [Cache.step, hs, hf, admittedOf])
      | some r =>
        exact shape_single P cfg c hs (.unlink rfl hf) (fun _ _ _ _ => trivial)
          (by simp [Cache.step, hs, hf, admittedOf, evictedOf])
  | clone rid =>
    cases hf : heldFind c.held rid with
    | none => exact shape_unchanged P cfg c (fun _ _ _ => trivial) (by simp [Cache.step, hf, admittedOf])
    | some r => exact shape_unchanged P cfg c (fun _ _ _ => trivial) (by simp [Cache.step, hf, admittedOf])
  | drop rid =>
    cases hf : heldFind c.held rid with
    | none =>
      exact shape_unchanged P cfg c (fun _ _ _ r hr => by rw [hf] at hr; cases hr) (by simp [Cache.step, hf, admittedOf])
    | some r =>
      by_cases hle : heldCnt c.held r ≤ 1
      · cases hph : r.phantom with
        | true =>
          -- the one step that reports a record without touching a shard
          have hstep : Cache.step P cfg c (.drop rid) =
              ({ c with held := heldDec c.held r }, { ret := .unit, leaves := [(.evict, r)], piped := [r] }) := by
            simp only [Cache.step, hf, hle, hph, if_true]
          have hm : mapShards (fun _ (t : Shard σ) => (t, ([] : List (Reason × Rec)), false)) 0 c.shards =
              (c.shards, [], false) := mapShards_stay fun _ _ _ => rfl
          exact ⟨fun _ t => (t, [], false), fun _ => [],
            { move := fun _ _ _ => .stay _ fun r' hr' _ hp => by rw [hf] at hr'; cases hr'; rw [hph] at hp; cases hp
              admitted := by simp [admittedOf]
              nextId_le := by rw [hstep]; exact Nat.le_refl _
              nextId_succ := fun h => absurd (by simp) h
              shards := by rw [hstep, hm]
              leaves := Or.inr ⟨rid, r, rfl, hf, hph, by rw [hstep], by rw [hm]⟩
              panic := by rw [hstep]; exact fun h => nomatch h
              piped := by rw [hstep]; simp [evictedOf] }⟩
        | false =>
          cases hs : c.shards[cfg.shardOf r.hash]? with
          | none =>
            exact shape_unchanged P cfg c
              (fun j t ht r' hr' _ _ e => by rw [hf] at hr'; cases hr'; rw [e, hs] at ht; cases ht)
              (by simp [Cache.step, hf, hle, hph, hs, admittedOf])
          | some s =>
            exact shape_single P cfg c hs (.release hf hle hph rfl)
              (fun _ _ _ h r' hr' _ _ => by rw [hf] at hr'; cases hr'; exact h)
              (by simp [Cache.step, hf, hle, hph, hs, admittedOf, evictedOf])
      · exact shape_unchanged P cfg c (fun _ _ _ r' hr' hle' => by rw [hf] at hr'; cases hr'; exact absurd hle' hle)
          (by simp [Cache.step, hf, hle, admittedOf])
  | clear =>
    refine ⟨_, fun _ => [],
      { move := fun _ _ _ => .clear
        admitted := by simp [admittedOf]
        nextId_le := by simp [Cache.step]
        nextId_succ := by simp
        shards := rfl
        leaves := Or.inl rfl
        panic := by simp [Cache.step]
        piped := ?_ }⟩
    refine (evictedOf_eq_nil fun x hx => ?_).symm
    obtain ⟨j, s, _, hx⟩ := mem_leaves_mapShards hx
    exact fun e => nomatch e.symm.trans (mem_map_pair.mp hx).1
  | resize cap =>
    exact ⟨_, fun _ => [],
      { move := fun _ _ _ => .evict _ _ (.resize cap)
        admitted := by simp [admittedOf]
        nextId_le := by simp [Cache.step]
        nextId_succ := by simp
        shards := rfl
        leaves := Or.inl rfl
        panic := by simp [Cache.step]
        piped := rfl }⟩
  | evictAll =>
    exact ⟨_, fun _ => [],
      { move := fun _ s _ => .evict s 0 (.all (Or.inl rfl))
        admitted := by simp [admittedOf]
        nextId_le := by simp [Cache.step]
        nextId_succ := by simp
        shards := rfl
        leaves := Or.inl rfl
        panic := by simp [Cache.step]
        piped := rfl }⟩
  | flush =>
    exact ⟨_, fun _ => [],
      { move := fun _ s _ => .evict s 0 (.all (Or.inr rfl))
        admitted := by simp [admittedOf]
        nextId_le := by simp [Cache.step]
        nextId_succ := by simp
        shards := rfl
        leaves := Or.inl rfl
        panic := by simp [Cache.step]
        piped := rfl }⟩

end shape

theorem ShardMove.spec (L : Lawful P Ok) {cfg : Cfg} {c : Cache σ} {j : Nat} {s : Shard σ} {op : Op}
    {adm : List Rec} {res : Shard σ × List (Reason × Rec) × Bool} (hm : ShardMove P cfg c j s op adm res)
    (h : ShardInv P Ok s) (hfr : ∀ x ∈ s.index, x.id < c.nextId) (hre : ∀ x ∈ s.index, x.phantom = false) :
    res.2.2 = false ∧ Moves P Ok s res.1 adm (leftRecs res.2.1) := by
  cases hm with
  | stay => exact ⟨rfl, Moves.refl h⟩
  | emplace key ver weight hint phantom loc age =>
    cases phantom with
    | true =>
      rw [emplace_phantom P s rfl]
      split
      · rename_i old hold
        have ho := (findKey_some hold).1
        refine ⟨rfl, ?_⟩
        have hl : ∀ r : Rec, r.phantom = true → leftRecs [(Reason.replace, old), (Reason.remove, r)] = [old] :=
          fun r hr => by simp [leftRecs, hre old ho, hr]
        rw [hl _ rfl]
        exact unlink_moves L h ho
      · exact ⟨rfl, by simpa [leftRecs] using Moves.refl h⟩
    | false =>
      have sp := emplace_spec (r := { id := c.nextId, key, hash := cfg.H key, ver, weight, hint, phantom := false, loc, age })
        L h rfl fun x hx => Nat.ne_of_lt (hfr x hx)
      have m : Moves P Ok s _ [_] _ := ⟨sp.inv, sp.perm⟩
      refine ⟨sp.no_panic, ?_⟩
      have : leftRecs (Shard.emplace P s _).2.1 = (Shard.emplace P s _).2.1.map (·.2) :=
        List.filter_eq_self.mpr fun x hx => by
          rcases m.mem_out hx with hx | hx
          · simp at hx; simp [hx]
          · simp [hre x hx]
      rw [this]; exact m
  | acquire _ hf => exact ⟨rfl, ev_moves h (L.acquire_ok _ _ h.ok) (L.acquire_mem _ _ h.ok)⟩
  | @touch key r _ hf =>
    refine ⟨rfl, ?_⟩
    have hok := L.acquire_ok s.ev r h.ok
    split
    · exact ev_moves h (L.release_ok _ _ hok) fun x => (L.release_mem _ _ hok x).trans (L.acquire_mem _ _ h.ok x)
    · exact ev_moves h hok (L.acquire_mem _ _ h.ok)
  | @unlink key r _ hf =>
    have hr := (findKey_some hf).1
    refine ⟨rfl, ?_⟩
    have : leftRecs [(Reason.remove, r)] = [r] := by simp [leftRecs, hre r hr]
    rw [this]
    exact unlink_moves L h hr
  | release => exact ⟨rfl, ev_moves h (L.release_ok _ _ h.ok) (L.release_mem _ _ h.ok)⟩
  | clear =>
    refine ⟨rfl, ⟨L.clear_ok _ h.ok, by simp [L.clear_mem _ h.ok], by simp [keysNodup], rfl, rfl⟩, ?_⟩
    rw [leftRecs_map_pair _ _ hre]
  | evict t target hp =>
    have m0 := hp.moves L h
    obtain ⟨s', vs, heq, e⟩ := evict_eq L m0.inv target
    have m : Moves P Ok s s' [] vs := m0.trans e.moves
    simp only [heq]
    rw [leftRecs_map_pair _ _ fun v hv => hre v (m.out_sub hv)]
    exact ⟨trivial, m⟩

theorem ShardMove.adm_spec {cfg : Cfg} {c : Cache σ} {j : Nat} {s : Shard σ} {op : Op}
    {adm : List Rec} {res : Shard σ × List (Reason × Rec) × Bool} (hm : ShardMove P cfg c j s op adm res) :
    ∀ x ∈ adm, x.id = c.nextId ∧ x.hash = cfg.H x.key ∧ cfg.shardOf x.hash = j ∧ x.phantom = false := by
  cases hm with
  | emplace key ver weight hint phantom loc age hj => cases phantom <;> simp [hj]
  | _ => exact fun _ h => nomatch h

theorem ShardMove.evicted_mem (L : Lawful P Ok) {cfg : Cfg} {c : Cache σ} {j : Nat} {s : Shard σ} {op : Op}
    {adm : List Rec} {res : Shard σ × List (Reason × Rec) × Bool} (mv : ShardMove P cfg c j s op adm res)
    (h : ShardInv P Ok s) {x : Rec} (hx : (Reason.evict, x) ∈ res.2.1) : x ∈ s.index := by
  cases mv with
  | emplace key ver weight hint phantom loc age =>
    cases phantom with
    | true => exact absurd hx ((emplace_phantom_neutral L h rfl).1 x)
    | false =>
      obtain ⟨s1, vs, _, m1, _, heq⟩ :=
        emplace_eq (r := { id := c.nextId, key, hash := cfg.H key, ver, weight, hint, phantom := false, loc, age }) L h rfl
      rw [heq] at hx
      have hv : x ∈ vs := by
        split at hx
        · simpa using hx
        · simpa using hx
      exact m1.out_sub hv
  | evict t target hp =>
    have m0 := hp.moves L h
    obtain ⟨s', vs, heq, e⟩ := evict_eq L m0.inv target
    simp only [heq] at hx
    have m : Moves P Ok s s' [] vs := m0.trans e.moves
    exact m.out_sub (mem_map_pair.mp hx).2
  | _ => simp at hx

end Foyer
