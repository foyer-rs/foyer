import FoyerModel.Policies.Sieve
import FoyerProofs.Lemmas.LawfulOfPerm
/-
  SIEVE is a lawful policy: `sieveScan` only flips visited bits, and `pop` erases the index it returns.
-/
namespace Foyer

theorem setVisited_map (q : List SieveEnt) (i : Nat) (b : Bool) : (setVisited q i b).map (·.r) = q.map (·.r) :=
  map_map_eq_map (fun e => by split <;> rfl) q

theorem setVisited_length (q : List SieveEnt) (i : Nat) (b : Bool) : (setVisited q i b).length = q.length := by
  unfold setVisited; simp

theorem sieveScan_spec : ∀ {fuel : Nat} {q : List SieveEnt} {i j : Nat} {q' : List SieveEnt},
    sieveScan fuel q i = some (j, q') →
    q'.map (·.r) = q.map (·.r) ∧ ∃ e, q'[j]? = some e ∧ e.visited = false := by
  intro fuel
  induction fuel with
  | zero => intro q i j q' h; simp [sieveScan] at h
  | succ f ih =>
    intro q i j q' h
    simp only [sieveScan] at h
    split at h
    · cases h
    · rename_i e he
      split at h
      · rename_i hv
        cases h
        exact ⟨rfl, e, he, by simpa using hv⟩
      · obtain ⟨hm, hv⟩ := ih h
        exact ⟨hm.trans (setVisited_map ..), hv⟩

theorem sieve_pop_some {s s' : Sieve} {r : Rec} (hp : sievePolicy.pop s = some (r, s')) :
    ∃ (i : Nat) (q' : List SieveEnt) (e : SieveEnt), q'.map (·.r) = s.q.map (·.r) ∧ q'[i]? = some e ∧
      e.r = r ∧ e.visited = false ∧ s'.q = q'.eraseIdx i ∧ s'.hand = (q'[i + 1]?).map (·.r.id) := by
  dsimp only [sievePolicy] at hp
  split at hp
  · cases hp
  · rename_i i q' hscan
    split at hp
    · cases hp
    · rename_i e he
      cases hp
      obtain ⟨hm, e', he', hv⟩ := sieveScan_spec hscan
      cases he.symm.trans he'
      exact ⟨i, q', e, hm, he, rfl, hv, rfl, rfl⟩

theorem sieve_permLaws : PermLaws sievePolicy (fun _ => True) where
  init_I _ := trivial
  init_members _ := rfl
  push s r _ _ _ := ⟨trivial, (List.perm_append_singleton (⟨r, false⟩ : SieveEnt) s.q).map SieveEnt.r⟩
  pop s r s' _ _ hp := by
    obtain ⟨i, q', e, hm, he, rfl, _, hq, _⟩ := sieve_pop_some hp
    refine ⟨trivial, ?_⟩
    show (s.q.map (·.r)).Perm (e.r :: s'.q.map (·.r))
    rw [← hm, hq]
    exact (perm_cons_eraseIdx q' i e he).map (·.r)
  remove s r _ hn hr := by
    obtain ⟨e, he, rfl⟩ := List.mem_map.mp hr
    exact ⟨trivial, (perm_eraseBy SieveEnt.r hn he rfl).map SieveEnt.r⟩
  acquire s r _ _ := ⟨trivial, .of_eq (setVisited_map s.q r.id true)⟩
  release _ _ _ _ := ⟨trivial, List.Perm.refl _⟩
  update _ _ _ _ := ⟨trivial, List.Perm.refl _⟩
  clear _ _ _ := ⟨trivial, rfl⟩

end Foyer
