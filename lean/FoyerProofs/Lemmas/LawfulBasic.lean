import FoyerModel.Basic
import FoyerProofs.Lemmas.ListRec
/-
  Lists of records by id, as `Lemmas/ListRec` has them by key (nothing here is about `Lawful`): `eraseId` /
  `findId` are `filter` / `find?`; among records with distinct ids (`idsNodup`), erasing by id takes exactly
  one element out.
-/
namespace Foyer

theorem eraseId_eq_filter (i : Nat) (l : List Rec) : eraseId i l = l.filter (fun r => r.id ≠ i) := by
  induction l with
  | nil => rfl
  | cons y ys ih => by_cases h : y.id = i <;> simp [eraseId, h, ih]

theorem findId_eq_find? (i : Nat) (l : List Rec) : findId i l = l.find? (fun r => r.id = i) := by
  induction l with
  | nil => rfl
  | cons y ys ih => by_cases h : y.id = i <;> simp [findId, h, ih]

theorem mem_eraseId {i : Nat} {l : List Rec} {x : Rec} : x ∈ eraseId i l ↔ x ∈ l ∧ x.id ≠ i := by
  simp [eraseId_eq_filter]

theorem findId_some {i : Nat} {l : List Rec} {r : Rec} (h : findId i l = some r) : r ∈ l ∧ r.id = i :=
  find?_key (f := Rec.id) (findId_eq_find? i l ▸ h)

theorem hasId_iff {i : Nat} {l : List Rec} : hasId i l = true ↔ ∃ x ∈ l, x.id = i := by
  simp [hasId, findId_eq_find?]

def idsNodup (l : List Rec) : Prop := (l.map (·.id)).Nodup

theorem nodup_of_idsNodup {l : List Rec} (h : idsNodup l) : l.Nodup :=
  List.Pairwise.of_map (fun r : Rec => r.id) (fun _ _ hab e => hab (by rw [e])) h

theorem idsNodup_cons {x : Rec} {l : List Rec} :
    idsNodup (x :: l) ↔ (∀ r ∈ l, r.id ≠ x.id) ∧ idsNodup l := by
  unfold idsNodup
  simp only [List.map_cons, List.nodup_cons, List.mem_map, not_exists, not_and]

theorem idsNodup_append {a b : List Rec} :
    idsNodup (a ++ b) ↔ idsNodup a ∧ idsNodup b ∧ ∀ x ∈ a, ∀ y ∈ b, x.id ≠ y.id := by
  simp [idsNodup, List.nodup_append]

theorem idsNodup_perm {a b : List Rec} (h : a.Perm b) : idsNodup a ↔ idsNodup b :=
  (h.map Rec.id).nodup_iff

theorem eq_of_id_eq {l : List Rec} {x y : Rec} (hn : idsNodup l) (hx : x ∈ l) (hy : y ∈ l)
    (h : x.id = y.id) : x = y := eq_of_map_eq hn hx hy h

theorem perm_eraseBy {α : Type} (p : α → Rec) {l : List α} {a : α} {i : Nat} (hn : idsNodup (l.map p)) (ha : a ∈ l)
    (hi : (p a).id = i) : l.Perm (a :: l.filter fun x => (p x).id ≠ i) :=
  hi ▸ perm_cons_filter (fun x => (p x).id) l a (by rwa [idsNodup, List.map_map] at hn) ha

theorem perm_eraseId {l : List Rec} {x : Rec} (hn : idsNodup l) (hx : x ∈ l) : l.Perm (x :: eraseId x.id l) :=
  eraseId_eq_filter x.id l ▸ perm_eraseBy id (by rwa [List.map_id]) hx rfl

theorem perm_findId {i : Nat} {l : List Rec} {x : Rec} (hn : idsNodup l) (h : findId i l = some x) :
    l.Perm (x :: eraseId i l) :=
  (findId_some h).2 ▸ perm_eraseId hn (findId_some h).1

theorem idsNodup_parts {a b c : List Rec} (h : idsNodup (a ++ b ++ c)) : idsNodup a ∧ idsNodup b ∧ idsNodup c := by
  rw [idsNodup_append, idsNodup_append] at h
  exact ⟨h.1.1, h.1.2.1, h.2.1⟩

end Foyer
