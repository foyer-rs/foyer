import FoyerModel.BlockSpec
import FoyerProofs.Lemmas.ListPerm
/-
  Lemmas about the layout specification (`FoyerModel.BlockSpec`): arithmetic of `alignUp`, chains of
  blobs, contiguity ⇒ disjointness, the scanner on a chain, and the steps `placeS` is made of.
-/
namespace Foyer.Blk

/-- What the engine's configuration guarantees: `P` is `PAGE`; the builder aligns the block size and the blob index
size up to it (`with_block_size`, `with_blob_index_size`, engine.rs) and the flusher asserts it and takes
`block_size - blob_index_size` as the largest entry (flusher.rs); an index page holds at least one entry. -/
structure WF (c : LCfg) : Prop where
  hP : 0 < c.P
  hI : c.P ∣ c.I
  hB : c.P ∣ c.B
  hI0 : 0 < c.I
  hIB : c.I < c.B
  hcap : 1 ≤ c.cap

theorem alignUp_dvd (p n : Nat) : p ∣ alignUp p n := Nat.dvd_mul_left _ _

theorem le_alignUp {p : Nat} (hp : 0 < p) (n : Nat) : n ≤ alignUp p n := by
  have := Nat.lt_div_mul_add (a := n + p - 1) hp
  unfold alignUp
  omega

theorem alignUp_pos {p : Nat} (hp : 0 < p) {n : Nat} (hn : 0 < n) : 0 < alignUp p n :=
  Nat.lt_of_lt_of_le hn (le_alignUp hp n)

theorem esize_dvd (c : LCfg) (es : List BEI) : c.P ∣ esize c es := by
  induction es with
  | nil => exact Nat.dvd_zero _
  | cons e es ih => exact Nat.dvd_add (alignUp_dvd _ _) ih

theorem esize_append (c : LCfg) (es fs : List BEI) : esize c (es ++ fs) = esize c es + esize c fs := by
  induction es with
  | nil => simp [esize]
  | cons e es ih => simp only [List.cons_append, esize, ih]; omega

theorem bsize_dvd {c : LCfg} (w : WF c) (b : Blob) : c.P ∣ bsize c b :=
  Nat.dvd_add w.hI (esize_dvd c b.ents)

/-- The entries of a blob follow each other, the first one at `start`. -/
def entsFrom (c : LCfg) : Nat → List BEI → Prop
  | _, [] => True
  | start, e :: es => e.off = start ∧ entsFrom c (start + alignUp c.P e.len) es

theorem entsFrom_append {c : LCfg} {es : List BEI} {start : Nat} {e : BEI}
    (h : entsFrom c start es) (he : e.off = start + esize c es) : entsFrom c start (es ++ [e]) := by
  induction es generalizing start with
  | nil => exact ⟨he, trivial⟩
  | cons x xs ih => exact ⟨h.1, ih h.2 (he.trans (Nat.add_assoc ..).symm)⟩

theorem entsFrom_getLast {c : LCfg} : ∀ {es : List BEI} {start : Nat} (hne : es ≠ []), entsFrom c start es →
    (es.getLast hne).off + alignUp c.P (es.getLast hne).len = start + esize c es
  | [e], start, _, h => by rw [List.getLast_singleton, h.1]; rfl
  | e :: e' :: es, start, _, h => by
    rw [List.getLast_cons_cons, entsFrom_getLast (List.cons_ne_nil e' es) h.2, Nat.add_assoc]
    rfl

/-- A chain of blobs: each starts where the previous one ends; none is empty. -/
def chained (c : LCfg) : Nat → List Blob → Prop
  | _, [] => True
  | start, b :: bs => b.off = start ∧ b.ents ≠ [] ∧ entsFrom c c.I b.ents ∧ chained c (start + bsize c b) bs

def chainEnd (c : LCfg) : Nat → List Blob → Nat
  | start, [] => start
  | start, b :: bs => chainEnd c (start + bsize c b) bs

theorem chained.off {c : LCfg} {start : Nat} {b : Blob} {bs : List Blob} (h : chained c start (b :: bs)) :
    b.off = start := h.1

theorem chained.ne {c : LCfg} {start : Nat} {b : Blob} {bs : List Blob} (h : chained c start (b :: bs)) :
    b.ents ≠ [] := h.2.1

theorem chained.ents {c : LCfg} {start : Nat} {b : Blob} {bs : List Blob} (h : chained c start (b :: bs)) :
    entsFrom c c.I b.ents := h.2.2.1

theorem chained.tail {c : LCfg} {start : Nat} {b : Blob} {bs : List Blob} (h : chained c start (b :: bs)) :
    chained c (start + bsize c b) bs := h.2.2.2

theorem chained_append {c : LCfg} {bs : List Blob} {start : Nat} {b : Blob}
    (h : chained c start bs) (ho : b.off = chainEnd c start bs) (hne : b.ents ≠ []) (hw : entsFrom c c.I b.ents) :
    chained c start (bs ++ [b]) := by
  induction bs generalizing start with
  | nil => exact ⟨ho, hne, hw, trivial⟩
  | cons x xs ih => exact ⟨h.off, h.ne, h.ents, ih h.tail ho⟩

theorem chainEnd_append (c : LCfg) (bs : List Blob) (start : Nat) (b : Blob) :
    chainEnd c start (bs ++ [b]) = chainEnd c start bs + bsize c b := by
  induction bs generalizing start with
  | nil => rfl
  | cons x xs ih => exact ih _

theorem chainEnd_ge (c : LCfg) (bs : List Blob) (start : Nat) : start ≤ chainEnd c start bs := by
  induction bs generalizing start with
  | nil => exact Nat.le_refl _
  | cons x xs ih => exact Nat.le_trans (Nat.le_add_right _ _) (ih _)

theorem chain_length_le {c : LCfg} (w : WF c) {bs : List Blob} {start : Nat} (h : chained c start bs) :
    start + bs.length * c.P ≤ chainEnd c start bs := by
  induction bs generalizing start with
  | nil => rw [List.length_nil, Nat.zero_mul]; exact Nat.le_refl _
  | cons b bs ih =>
    have ih := ih h.tail
    have : c.P ≤ bsize c b := Nat.le_trans (Nat.le_of_dvd w.hI0 w.hI) (Nat.le_add_right _ _)
    rw [chainEnd, List.length_cons, Nat.add_mul, Nat.one_mul]
    omega

/-- `rs` tiles `[start, end)` without gaps, in order. -/
def contig : Nat → List (Nat × Nat) → Nat → Prop
  | start, [], e => start = e
  | start, r :: rs, e => r.1 = start ∧ contig (start + r.2) rs e

def disjoint (r s : Nat × Nat) : Prop := r.1 + r.2 ≤ s.1 ∨ s.1 + s.2 ≤ r.1

theorem contig_ge : ∀ {rs : List (Nat × Nat)} {start e : Nat}, contig start rs e →
    start ≤ e ∧ ∀ r ∈ rs, start ≤ r.1 ∧ r.1 + r.2 ≤ e
  | [], _, _, h => ⟨Nat.le_of_eq h, fun _ hr => nomatch hr⟩
  | x :: xs, start, e, h => by
    obtain ⟨h1, h2⟩ := contig_ge h.2
    have hs : start ≤ start + x.2 := Nat.le_add_right _ _
    refine ⟨Nat.le_trans hs h1, List.forall_mem_cons.mpr ⟨⟨Nat.le_of_eq h.1.symm, h.1 ▸ h1⟩, fun r hr => ?_⟩⟩
    exact ⟨Nat.le_trans hs (h2 r hr).1, (h2 r hr).2⟩

theorem contig_pairwise {rs : List (Nat × Nat)} {start e : Nat} (h : contig start rs e) : rs.Pairwise disjoint := by
  induction rs generalizing start with
  | nil => exact List.Pairwise.nil
  | cons x xs ih =>
    refine List.Pairwise.cons (fun r hr => .inl ?_) (ih h.2)
    exact h.1 ▸ ((contig_ge h.2).2 r hr).1

theorem contig_append {rs ss : List (Nat × Nat)} {a b d : Nat} (h1 : contig a rs b) (h2 : contig b ss d) :
    contig a (rs ++ ss) d := by
  induction rs generalizing a with
  | nil => exact h1 ▸ h2
  | cons x xs ih => exact ⟨h1.1, ih h1.2⟩

theorem contig_aligned {p : Nat} {rs : List (Nat × Nat)} {start e : Nat} (h : contig start rs e) (hs : p ∣ start)
    (hz : ∀ r ∈ rs, p ∣ r.2) : ∀ r ∈ rs, p ∣ r.1 := by
  induction rs generalizing start with
  | nil => exact fun _ hr => nomatch hr
  | cons x xs ih =>
    have hz := List.forall_mem_cons.mp hz
    exact List.forall_mem_cons.mpr ⟨h.1 ▸ hs, ih h.2 (Nat.dvd_add hs hz.1) hz.2⟩

/-- The byte regions of a blob: its index page, then its entries. -/
def entRegions (c : LCfg) (off : Nat) (es : List BEI) : List (Nat × Nat) :=
  es.map fun e => (off + e.off, alignUp c.P e.len)

def blobRegions (c : LCfg) (b : Blob) : List (Nat × Nat) := (b.off, c.I) :: entRegions c b.off b.ents

def regions (c : LCfg) (bs : List Blob) : List (Nat × Nat) := bs.flatMap (blobRegions c)

theorem entRegions_contig (c : LCfg) (off : Nat) : ∀ (es : List BEI) (start : Nat), entsFrom c start es →
    contig (off + start) (entRegions c off es) (off + start + esize c es)
  | [], _, _ => rfl
  | e :: es, start, h => by
    have ih := entRegions_contig c off es _ h.2
    rw [← Nat.add_assoc] at ih
    refine ⟨congrArg (off + ·) h.1, ?_⟩
    rw [esize, ← Nat.add_assoc]
    exact ih

theorem regions_contig {c : LCfg} {bs : List Blob} {start : Nat} (h : chained c start bs) :
    contig start (regions c bs) (chainEnd c start bs) := by
  induction bs generalizing start with
  | nil => rfl
  | cons b bs ih =>
    obtain ⟨rfl, _, hents, hrest⟩ := h
    refine contig_append (b := b.off + bsize c b) ⟨rfl, ?_⟩ (ih hrest)
    exact Nat.add_assoc .. ▸ entRegions_contig c b.off b.ents c.I hents

theorem chained_off_ge {c : LCfg} {bs : List Blob} {start : Nat} (h : chained c start bs) :
    ∀ b ∈ bs, start ≤ b.off ∧ b.off + c.I ≤ chainEnd c start bs := fun b hb =>
  (contig_ge (regions_contig h)).2 (b.off, c.I) (List.mem_flatMap.mpr ⟨b, hb, List.mem_cons_self⟩)

theorem regions_sizes_dvd {c : LCfg} (w : WF c) (bs : List Blob) : ∀ r ∈ regions c bs, c.P ∣ r.2 := by
  intro r hr
  simp only [regions, List.mem_flatMap, blobRegions, List.mem_cons, entRegions, List.mem_map] at hr
  obtain ⟨b, _, hb⟩ := hr
  rcases hb with hb | ⟨e, _, he⟩
  · rw [hb]; exact w.hI
  · rw [← he]; exact alignUp_dvd _ _

theorem idxAt_cons (m : IdxMap) (a : Nat × List BEI) (off : Nat) :
    idxAt (a :: m) off = if a.1 = off then some a.2 else idxAt m off := find?_fst_cons a m off

theorem idxAt_mem {m : IdxMap} {o : Nat} {es : List BEI} (h : idxAt m o = some es) : (o, es) ∈ m :=
  mem_of_find?_fst h

theorem idxAt_idxMapOf_none {bs : List Blob} {off : Nat} (h : ∀ b ∈ bs, b.off ≠ off) :
    idxAt (idxMapOf bs) off = none := by
  unfold idxAt idxMapOf
  rw [List.find?_map, List.find?_eq_none.mpr fun b hb => by simpa using h b hb]
  rfl

theorem idxAt_none_of_lt (c : LCfg) : ∀ (bs : List Blob) (start : Nat), chained c start bs → ∀ off, off < start →
    idxAt (idxMapOf bs) off = none := fun _ _ h _ ho =>
  idxAt_idxMapOf_none fun b hb => Nat.ne_of_gt (Nat.lt_of_lt_of_le ho (chained_off_ge h b hb).1)

theorem idxAt_none_of_ge {c : LCfg} (w : WF c) {bs : List Blob} {start : Nat} (h : chained c start bs)
    {off : Nat} (ho : chainEnd c start bs ≤ off) : idxAt (idxMapOf bs) off = none :=
  idxAt_idxMapOf_none fun b hb => by
    have := (chained_off_ge h b hb).2
    have := w.hI0
    omega

/-- **The scanner on a chain of blobs** reads the blobs back one by one and stops behind the last. -/
theorem scan_chain {c : LCfg} : ∀ (bs : List Blob) (start fuel : Nat) (m : IdxMap),
    chained c start bs → (∀ b ∈ bs, idxAt m b.off = some b.ents) →
    chainEnd c start bs ≤ c.B →
    (chainEnd c start bs + c.I > c.B ∨ idxAt m (chainEnd c start bs) = none) →
    bs.length < fuel →
    scan c m fuel start = bs.map fun b => b.ents.map (place b.off)
  | _, _, 0, _, _, _, _, _, hf => absurd hf (Nat.not_lt_zero _)
  | [], start, fuel + 1, m, _, _, _, hend, _ => by
    rw [scan]
    rcases hend with h | h
    · exact if_pos h
    · split
      · rfl
      · rw [show idxAt m start = none from h]; rfl
  | b :: bs, start, fuel + 1, m, h, hm, hB, hend, hf => by
    have hge : start + bsize c b ≤ c.B := Nat.le_trans (chainEnd_ge c bs _) hB
    have hnot : ¬ (start + c.I > c.B) := by unfold bsize at hge; omega
    have hb := hm b List.mem_cons_self
    rw [h.off] at hb
    rw [scan, if_neg hnot, hb]
    dsimp only
    rw [List.getLast?_eq_some_getLast h.ne]
    dsimp only
    rw [entsFrom_getLast h.ne h.ents, List.map_cons, h.off]
    exact congrArg _ (scan_chain bs _ fuel m h.tail (fun b' hb' => hm b' (List.mem_cons_of_mem _ hb')) hB hend
      (Nat.lt_of_succ_lt_succ hf))

theorem idxAt_idxMapOf {c : LCfg} (w : WF c) {bs : List Blob} {start : Nat} (h : chained c start bs) :
    ∀ b ∈ bs, idxAt (idxMapOf bs) b.off = some b.ents := by
  induction bs generalizing start with
  | nil => exact fun _ hb => nomatch hb
  | cons x xs ih =>
    refine List.forall_mem_cons.mpr ⟨(idxAt_cons ..).trans (if_pos rfl), fun b hb => ?_⟩
    have hne : x.off ≠ b.off := Nat.ne_of_lt <| Nat.lt_of_lt_of_le
      (h.off ▸ Nat.lt_add_of_pos_right (Nat.lt_of_lt_of_le w.hI0 (Nat.le_add_right ..))) (chained_off_ge h.tail b hb).1
    exact (idxAt_cons ..).trans ((if_neg hne).trans (ih h.tail b hb))

theorem guardSeq_sorted {l : List Placed} {last : Nat} (hl : ∀ p ∈ l, last ≤ p.seq)
    (hp : l.Pairwise (fun a b => a.seq ≤ b.seq)) : guardSeq l last = l := by
  induction l generalizing last with
  | nil => rfl
  | cons p ps ih =>
    rw [guardSeq, if_neg (Nat.not_lt.mpr (hl p List.mem_cons_self)), ih (fun _ => List.rel_of_pairwise_cons hp) hp.of_cons]

def pushS (c : LCfg) (sp : Spec) (i : Info) : Spec :=
  { sp with cur := { sp.cur with ents := sp.cur.ents ++ [{ hash := i.hash, seq := i.seq, off := bsize c sp.cur, len := i.len }] } }

def newBlock (sp : Spec) : Spec :=
  { done := sp.done ++ [sp.curBlobs], blobs := [], cur := { off := 0, ents := [] } }

theorem placeS_over {c : LCfg} {sp : Spec} {i : Info}
    (h : (roll c sp).cur.off + bsize c (roll c sp).cur + alignUp c.P i.len > c.B) :
    placeS c sp i = (pushS c (newBlock (roll c sp)) i, ((roll c sp).done.length + 1, c.I)) := by
  unfold placeS
  rw [if_pos h]
  rfl

theorem placeS_fit {c : LCfg} {sp : Spec} {i : Info}
    (h : ¬ (roll c sp).cur.off + bsize c (roll c sp).cur + alignUp c.P i.len > c.B) :
    placeS c sp i = (pushS c (roll c sp) i, ((roll c sp).done.length, (roll c sp).cur.off + bsize c (roll c sp).cur)) := by
  unfold placeS
  rw [if_neg h]
  rfl

theorem roll_of_not_full {c : LCfg} {sp : Spec} (h : ¬ sp.cur.ents.length ≥ c.cap) : roll c sp = sp := by
  unfold roll; rw [if_neg h]

theorem roll_not_full {c : LCfg} (w : WF c) (sp : Spec) : ¬ (roll c sp).cur.ents.length ≥ c.cap := by
  unfold roll
  split
  · exact Nat.not_le.mpr w.hcap
  · assumption

theorem roll_roll {c : LCfg} (w : WF c) (sp : Spec) : roll c (roll c sp) = roll c sp :=
  roll_of_not_full (roll_not_full w sp)

theorem roll_done (c : LCfg) (sp : Spec) : (roll c sp).done = sp.done := by
  unfold roll; split <;> rfl

theorem placeS_roll {c : LCfg} (w : WF c) (sp : Spec) (i : Info) : placeS c (roll c sp) i = placeS c sp i := by
  unfold placeS
  rw [roll_roll w]

theorem placeAll_roll {c : LCfg} (w : WF c) (sp : Spec) (is : List Info) :
    (placeAll c (roll c sp) is).2 = (placeAll c sp is).2 ∧
    roll c (placeAll c (roll c sp) is).1 = roll c (placeAll c sp is).1 := by
  cases is with
  | nil => exact ⟨rfl, roll_roll w sp⟩
  | cons i is => simp only [placeAll, placeS_roll w, and_self]

end Foyer.Blk
