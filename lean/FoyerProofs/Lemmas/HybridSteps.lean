import FoyerProofs.Lemmas.Hybrid
import FoyerProofs.Lemmas.MemFacts
/-
  The API calls of the hybrid model (`stepCore`) are compositions of a few procedures: `putSeq` (insert into
  memory, hand to the disk tier if asked, drop the handle), `getSeq` (memory lookup; on a miss the disk lookup
  with population), `rmSeq`, and the tails of `clear`, `lose` and `reopen`.  The `stepCore_*` equations say so
  once; proofs about an API call rewrite with them and reason about the procedures.  `stepCore_closed`: a state
  predicate that survives the primitives (memory operation, `submit`, `delete`, the tails) survives every call.
-/
namespace Foyer.Hyb
open Foyer

section
variable {σ : Type} (P : Policy σ) (hc : HCfg)

def submitIf (c : Bool) (s : HState σ) (r : Rec) : HState σ := if c then submit s r else s

theorem submitIf_false (s : HState σ) (r : Rec) : submitIf false s r = s := rfl

theorem submitIf_mem (c : Bool) (s : HState σ) (r : Rec) : (submitIf c s r).mem = s.mem := by
  unfold submitIf
  split
  · exact submit_mem s r
  · rfl

/-- insert, submit (if `c`), drop the handle: every insert path of `stepCore`, and `memInsert` -/
def putSeq (s : HState σ) (key ver : Nat) (ph : Bool) (loc : Loc) (age : Age) (c : Bool) : HState σ :=
  match (memOp P hc s (.ins key ver 1 .normal ph loc age)).2.ret with
  | .handle r => (memOp P hc (submitIf c (memOp P hc s (.ins key ver 1 .normal ph loc age)).1 r) (.drop r.id)).1
  | _ => (memOp P hc s (.ins key ver 1 .normal ph loc age)).1

theorem putSeq_handle {s : HState σ} {key ver : Nat} {ph : Bool} {loc : Loc} {age : Age} {r : Rec} (c : Bool)
    (hr : (memOp P hc s (.ins key ver 1 .normal ph loc age)).2.ret = .handle r) :
    putSeq P hc s key ver ph loc age c =
      (memOp P hc (submitIf c (memOp P hc s (.ins key ver 1 .normal ph loc age)).1 r) (.drop r.id)).1 := by
  unfold putSeq
  rw [hr]

/-- the lookup path of `get` / `get_or_fetch`: memory, then keeper and index -/
def getSeq (s : HState σ) (key : Nat) : HState σ × Option (Nat × String) :=
  match (memOp P hc s (.get key)).2.ret with
  | .handle r => ((memOp P hc (memOp P hc s (.get key)).1 (.drop r.id)).1, some (r.ver, "memory"))
  | _ => loadAndPopulate P hc (memOp P hc s (.get key)).1 key

theorem getSeq_hit {s : HState σ} {key : Nat} {r : Rec} (hl : Cache.lookup hc.mcfg s.mem key = some r) :
    getSeq P hc s key = ((memOp P hc (memOp P hc s (.get key)).1 (.drop r.id)).1, some (r.ver, "memory")) := by
  unfold getSeq
  rw [memOp_out, (step_get_hit P hl).ret]

theorem memOp_get_miss {s : HState σ} {key : Nat} (hl : Cache.lookup hc.mcfg s.mem key = none) :
    (memOp P hc s (.get key)).1 = s := by
  rw [memOp_eq, step_get_piped, (step_get_miss P hl).state]
  rfl

theorem getSeq_miss {s : HState σ} {key : Nat} (hl : Cache.lookup hc.mcfg s.mem key = none) :
    getSeq P hc s key = loadAndPopulate P hc s key := by
  unfold getSeq
  rw [memOp_get_miss P hc hl, memOp_out]
  rcases (step_get_miss P hl).ret with e | e <;> rw [e]

/-- what `get` answers from the result of the lookup path -/
def HRet.ofLoad (key : Nat) : Option (Nat × String) → HRet
  | some (v, src) => .val key v src
  | none => .miss

/-- the memory part of `remove`: take the record out, drop the returned handle -/
def rmSeq (s : HState σ) (key : Nat) : HState σ :=
  match (memOp P hc s (.remove key)).2.ret with
  | .handle r => (memOp P hc (memOp P hc s (.remove key)).1 (.drop r.id)).1
  | _ => (memOp P hc s (.remove key)).1

theorem rmSeq_hit {s : HState σ} {key : Nat} {r : Rec} (hl : Cache.lookup hc.mcfg s.mem key = some r) :
    rmSeq P hc s key = (memOp P hc (memOp P hc s (.remove key)).1 (.drop r.id)).1 := by
  unfold rmSeq
  rw [memOp_out, (step_remove_hit P hl).ret]

theorem rmSeq_miss {s : HState σ} {key : Nat} (hl : Cache.lookup hc.mcfg s.mem key = none) :
    rmSeq P hc s key = s := by
  have hs : (memOp P hc s (.remove key)).1 = s := by
    rw [memOp_eq, step_remove_piped, (step_remove_miss P hl).state]
    rfl
  unfold rmSeq
  rw [hs, memOp_out]
  rcases (step_remove_miss P hl).ret with e | e <;> rw [e]

/-- `clear` hands the flusher a tombstone for everything -/
def clearQ (s : HState σ) : HState σ :=
  { s with seq := s.seq + 1, queue := s.queue ++ [.tomb 0 s.seq], subs := s.subs ++ [.tomb 0 s.seq] }

/-- the state after `lose h` when `e` is the indexed entry of `h` -/
def lost (s : HState σ) (h : Nat) (e : DiskEnt) : HState σ :=
  { s with index := assocDel s.index h, disk := s.disk.filter fun d => !(d.hash = e.hash && d.seq ≤ e.seq) }

/-- what `reopen` does after the optional closing flush of memory: drain the flusher, recover into memory `m` -/
def reopenTail (s1 : HState σ) (m : Cache σ) : HState σ :=
  let s2 := flush hc { s1 with held := false, gated := false }
  let tombs := if hc.tombLog then s2.tombs else []
  { s2 with mem := m, keeper := [], queue := [], inflight := [],
            index := recover s2.disk tombs, seq := maxSeq s2.disk tombs + 1 }

theorem memInsert_fst (s : HState σ) (key ver : Nat) (ph : Bool) (loc : Loc) (age : Age) :
    (memInsert P hc s key ver ph loc age).1 = putSeq P hc s key ver ph loc age false := by
  simp only [memInsert, putSeq, submitIf_false]
  cases (memOp P hc s (.ins key ver 1 .normal ph loc age)).2.ret <;> rfl

theorem loadAndPopulate_eq (s : HState σ) (key : Nat) :
    loadAndPopulate P hc s key =
      match assocGet s.keeper key with
      | some r => (putSeq P hc s key r.ver r.phantom r.loc r.age false, some (r.ver, "memory"))
      | none =>
        match indexAddr s.index (hc.mcfg.H key) with
        | none => (s, none)
        | some e =>
          if e.key = key then (putSeq P hc s key e.ver false .default .young false, some (e.ver, "disk")) else (s, none) := by
  unfold loadAndPopulate
  simp only [← memInsert_fst]
  cases assocGet s.keeper key with
  | some r => rfl
  | none => cases indexAddr s.index (hc.mcfg.H key) <;> rfl

theorem getSeq_none {s : HState σ} {key : Nat} (h : (getSeq P hc s key).2 = none) : (getSeq P hc s key).1 = s := by
  revert h
  cases hl : Cache.lookup hc.mcfg s.mem key with
  | some r => rw [getSeq_hit P hc hl]; intro h; cases h
  | none =>
    rw [getSeq_miss P hc hl, loadAndPopulate_eq]
    split
    · intro h; cases h
    · split
      · intro _; rfl
      · split
        · intro h; cases h
        · intro _; rfl

theorem stepCore_ins (s : HState σ) (key ver : Nat) (loc : Loc) (big : Bool) :
    stepCore P hc s (.ins key ver loc big) =
      (putSeq P hc (if big then { s with big := ver :: s.big } else s) key ver (loc = .onDisk) loc .fresh
        (hc.woi && loc ≠ .inMem), .ok) := by
  simp only [stepCore, putSeq, submitIf]
  cases (memOp P hc _ (.ins key ver 1 .normal (decide (loc = .onDisk)) loc .fresh)).2.ret <;> rfl

theorem stepCore_wins (s : HState σ) (key ver : Nat) (f : Bool) :
    stepCore P hc s (.wins key ver f) = (putSeq P hc s key ver true .default .fresh hc.woi, .ok) := by
  simp only [stepCore, putSeq, submitIf]
  cases (memOp P hc s (.ins key ver 1 .normal true .default .fresh)).2.ret <;> rfl

theorem stepCore_rm (s : HState σ) (key : Nat) :
    stepCore P hc s (.rm key) = (delete hc (rmSeq P hc s key) key, .ok) := by
  simp only [stepCore, rmSeq]
  cases (memOp P hc s (.remove key)).2.ret <;> rfl

theorem stepCore_clear (s : HState σ) :
    stepCore P hc s .clear = ({ flush hc (clearQ (memOp P hc s .clear).1) with index := [], disk := [] }, .ok) := by
  simp only [stepCore, clearQ]

theorem stepCore_get (s : HState σ) (key : Nat) :
    stepCore P hc s (.get key) = ((getSeq P hc s key).1, HRet.ofLoad key (getSeq P hc s key).2) := by
  simp only [stepCore, getSeq]
  cases (memOp P hc s (.get key)).2.ret
  case handle r => rfl
  all_goals
    generalize loadAndPopulate P hc (memOp P hc s (.get key)).1 key = p
    obtain ⟨s2, _ | ⟨v, src⟩⟩ := p <;> rfl

/-- the answer of an insert path: `ok` if memory returned a handle -/
def HRet.ofIns (ret : Ret) (ok : HRet) : HRet :=
  match ret with
  | .handle _ => ok
  | _ => .miss

theorem HRet.ofIns_handle (r : Rec) (ok : HRet) : HRet.ofIns (.handle r) ok = ok := rfl

theorem stepCore_fetch (s : HState σ) (key ov : Nat) :
    stepCore P hc s (.fetch key ov) =
      match (getSeq P hc s key).2 with
      | some (v, src) => ((getSeq P hc s key).1, .val key v src)
      | none => (putSeq P hc (getSeq P hc s key).1 key ov false .default .fresh hc.woi,
          HRet.ofIns (memOp P hc (getSeq P hc s key).1 (.ins key ov 1 .normal false .default .fresh)).2.ret
            (.val key ov "outer")) := by
  simp only [stepCore, getSeq, putSeq, submitIf, HRet.ofIns]
  cases (memOp P hc s (.get key)).2.ret
  case handle r => rfl
  all_goals
    generalize loadAndPopulate P hc (memOp P hc s (.get key)).1 key = p
    obtain ⟨s2, _ | ⟨v, src⟩⟩ := p
    · dsimp only
      cases (memOp P hc s2 (.ins key ov 1 .normal false .default .fresh)).2.ret <;> rfl
    · rfl

theorem stepCore_evict (s : HState σ) : stepCore P hc s .evict = ((memOp P hc s .evictAll).1, .ok) := rfl

theorem stepCore_contains (s : HState σ) (key : Nat) :
    stepCore P hc s (.contains key) =
      (s, .bool ((Cache.lookup hc.mcfg s.mem key).isSome || (indexAddr s.index (hc.mcfg.H key)).isSome)) := rfl

theorem stepCore_wait (s : HState σ) : stepCore P hc s .wait = (s, .ok) := rfl

theorem stepCore_lose (s : HState σ) (h : Nat) :
    stepCore P hc s (.lose h) =
      (match indexAddr s.index h with
       | none => s
       | some e => lost s h e, .ok) := by
  simp only [stepCore, lost]
  cases indexAddr s.index h <;> rfl

theorem stepCore_reopen (s : HState σ) :
    stepCore P hc s .reopen =
      (reopenTail hc (if hc.foc then (memOp P hc s .flush).1 else s)
        (Cache.new P hc.mcfg ((s.mem.shards.map (·.cap)).sum)), .ok) := rfl

/-- the flusher controls of the harness (hold / gate windows): record updates that touch neither memory nor the
submission log -/
def HOp.isControl : HOp → Bool
  | .hold | .unhold | .gate | .releaseAll | .releaseBatch => true
  | _ => false

theorem stepCore_control_mem {op : HOp} (h : op.isControl = true) (s : HState σ) :
    (stepCore P hc s op).1.mem = s.mem := by
  cases op
  case hold => rfl
  case unhold => rfl
  case gate => rfl
  case releaseAll => rfl
  case releaseBatch => rfl
  all_goals cases h

theorem stepCore_control_subs {op : HOp} (h : op.isControl = true) (s : HState σ) :
    (stepCore P hc s op).1.subs = s.subs := by
  cases op
  case hold => rfl
  case unhold => rfl
  case gate => rfl
  case releaseAll => rfl
  case releaseBatch => rfl
  all_goals cases h

variable {P} {hc} {I Pre : HState σ → Prop}
  (hmem : ∀ s op, 1 ≤ op.insWeight → I s → I (memOp P hc s op).1)
  (hsub : ∀ s r, r.loc ≠ .inMem → I s → I (submit s r))

theorem memOp_held_ins {s : HState σ} {key ver w : Nat} {hint : Hint} {ph : Bool} {loc : Loc} {age : Age} {r : Rec}
    (hh : s.mem.held = []) (hr : (memOp P hc s (.ins key ver w hint ph loc age)).2.ret = .handle r) :
    (memOp P hc s (.ins key ver w hint ph loc age)).1.mem.held = [(r, 1)] := by
  rw [memOp_out] at hr
  rw [memOp_mem]
  exact held_ins hh hr

theorem memOp_held_drop {s : HState σ} {r : Rec} (hh : s.mem.held = [(r, 1)]) :
    (memOp P hc s (.drop r.id)).1.mem.held = [] := by
  rw [memOp_mem]
  exact (held_drop P hc.mcfg hh).1

include hmem hsub in
theorem putSeq_closed {s : HState σ} (hi : I s) {key ver : Nat} {ph : Bool} {loc : Loc} {age : Age} {c : Bool}
    (hcl : c = true → loc ≠ .inMem) : I (putSeq P hc s key ver ph loc age c) := by
  have h1 := hmem s (.ins key ver 1 .normal ph loc age) (Nat.le_refl 1) hi
  have ho := memOp_out P hc s (.ins key ver 1 .normal ph loc age)
  unfold putSeq
  split
  · rename_i r hr
    apply hmem _ (.drop r.id) (Nat.le_refl 1)
    unfold submitIf
    split
    · rename_i hc'
      obtain ⟨-, -, hrl, -⟩ := ins_handle_fields (ho ▸ hr)
      refine hsub _ r ?_ h1
      rw [hrl]
      exact hcl hc'
    · exact h1
  · exact h1

include hmem in
theorem rmSeq_closed {s : HState σ} (hi : I s) (key : Nat) : I (rmSeq P hc s key) := by
  unfold rmSeq
  split
  · rename_i r _; exact hmem _ (.drop r.id) (Nat.le_refl 1) (hmem s (.remove key) (Nat.le_refl 1) hi)
  · exact hmem s (.remove key) (Nat.le_refl 1) hi

include hmem hsub in
theorem getSeq_closed {s : HState σ} (hi : I s) (key : Nat) : I (getSeq P hc s key).1 := by
  have h1 := hmem s (.get key) (Nat.le_refl 1) hi
  unfold getSeq
  split
  · rename_i r _
    -- reduces `(a, b).1`; left to unification that costs an unfolding of `memOp`
    dsimp only
    exact hmem _ (.drop r.id) (Nat.le_refl 1) h1
  · rw [loadAndPopulate_eq]
    split
    · dsimp only
      exact putSeq_closed hmem hsub h1 (fun h => by cases h)
    · split
      · exact h1
      · split
        · dsimp only
          exact putSeq_closed hmem hsub h1 (fun h => by cases h)
        · exact h1

variable (P) (hc)

/-- The primitives of the hybrid model keep `I`.  Memory operations insert with weight 1; what is submitted is
never advised in-memory-only; `Pre` is what the caller knows about the state a call starts in (used by `lose`). -/
structure Closed (I Pre : HState σ → Prop) : Prop where
  memOp : ∀ s op, 1 ≤ op.insWeight → I s → I (memOp P hc s op).1
  submit : ∀ s r, r.loc ≠ .inMem → I s → I (submit s r)
  delete : ∀ s key, I s → I (delete hc s key)
  big : ∀ s b, I s → I ({ s with big := b } : HState σ)
  clear : ∀ s, I s → I ({ flush hc (clearQ s) with index := [], disk := [] } : HState σ)
  lose : ∀ s h e, Pre s → indexAddr s.index h = some e → I s → I (lost s h e)
  reopen : ∀ s cap, I s → I (reopenTail hc s (Cache.new P hc.mcfg cap))

theorem stepCore_closed (c : Closed P hc I Pre)
    {s : HState σ} (hp : Pre s) (hi : I s) (op : HOp) (hq : op.isControl = false) : I (stepCore P hc s op).1 := by
  cases op with
  | ins key ver loc big =>
    rw [stepCore_ins]
    refine putSeq_closed c.memOp c.submit ?_
      (fun h => by simp only [Bool.and_eq_true, decide_eq_true_eq] at h; exact h.2)
    split
    · exact c.big _ _ hi
    · exact hi
  | wins key ver f => rw [stepCore_wins]; exact putSeq_closed c.memOp c.submit hi (fun _ => by decide)
  | rm key =>
    rw [stepCore_rm]
    exact c.delete _ key (rmSeq_closed c.memOp hi key)
  | clear => rw [stepCore_clear]; exact c.clear _ (c.memOp s .clear (Nat.le_refl 1) hi)
  | get key => rw [stepCore_get]; exact getSeq_closed c.memOp c.submit hi key
  | fetch key ov =>
    rw [stepCore_fetch]
    have hg := getSeq_closed c.memOp c.submit hi key
    split
    · exact hg
    · dsimp only
      exact putSeq_closed c.memOp c.submit hg (fun _ => by decide)
  | evict => exact c.memOp s .evictAll (Nat.le_refl 1) hi
  | contains key => exact hi
  | wait => exact hi
  | lose h =>
    rw [stepCore_lose]
    split
    · exact hi
    · rename_i e he; exact c.lose s h e hp he hi
  | reopen =>
    rw [stepCore_reopen]
    apply c.reopen
    split
    · exact c.memOp s .flush (Nat.le_refl 1) hi
    · exact hi
  | hold => cases hq
  | unhold => cases hq
  | gate => cases hq
  | releaseAll => cases hq
  | releaseBatch => cases hq

end
end Foyer.Hyb
