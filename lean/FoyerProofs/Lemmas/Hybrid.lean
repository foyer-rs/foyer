import FoyerModel.Hybrid
/-
  Basic facts about the hybrid model: the outcomes of `flush` and `submit` as equations (`flush_cases`,
  `submit_cases`), what survives the pipe and a memory operation (`pipe_closed`, `memOp_closed`), what reaches
  `subs` (everything ever submitted to the disk tier).
-/
namespace Foyer.Hyb
open Foyer

section
variable {σ : Type} (P : Policy σ) (hc : HCfg)

/-- The outcomes of `flush`: nothing (held, or gated with a batch in flight or nothing queued), the queue becomes
the batch in flight, the queue is completed at once (gated, no device write needed), or everything is completed. -/
theorem flush_cases (s : HState σ) :
    flush hc s = s ∨
    (s.inflight = [] ∧ flush hc s = { s with inflight := s.queue, queue := [] }) ∨
    (s.inflight = [] ∧ flush hc s = { applyBatch hc s s.queue with queue := [] }) ∨
    flush hc s = { applyBatch hc (applyBatch hc s s.inflight) s.queue with inflight := [], queue := [] } := by
  -- the conditions first, then `flush` computed in each case: `split` on the whole disjunction is slow to check
  by_cases hh : s.held = true
  · exact Or.inl (by unfold flush; rw [if_pos hh])
  · by_cases hg : s.gated = true
    · by_cases hb : (s.inflight.isEmpty && !s.queue.isEmpty) = true
      · have hi : s.inflight = [] := by
          simp only [Bool.and_eq_true, List.isEmpty_iff] at hb
          exact hb.1
        by_cases hio : needsIO hc s.queue = true
        · exact Or.inr (Or.inl ⟨hi, by unfold flush; rw [if_neg hh, if_pos hg, if_pos hb, if_pos hio]⟩)
        · exact Or.inr (Or.inr (Or.inl ⟨hi, by unfold flush; rw [if_neg hh, if_pos hg, if_pos hb, if_neg hio]⟩))
      · exact Or.inl (by unfold flush; rw [if_neg hh, if_pos hg, if_neg hb])
    · exact Or.inr (Or.inr (Or.inr (by unfold flush; rw [if_neg hh, if_neg hg])))

theorem flush_idle (s : HState σ) (hh : s.held = false) (hg : s.gated = false) :
    flush hc s = { applyBatch hc (applyBatch hc s s.inflight) s.queue with inflight := [], queue := [] } := by
  unfold flush
  simp only [hh, hg, Bool.false_eq_true, if_false]

theorem flush_subs (s : HState σ) : (flush hc s).subs = s.subs := by
  rcases flush_cases hc s with h | ⟨_, h⟩ | ⟨_, h⟩ | h <;> rw [h] <;> rfl

theorem flush_mem (s : HState σ) : (flush hc s).mem = s.mem := by
  rcases flush_cases hc s with h | ⟨_, h⟩ | ⟨_, h⟩ | h <;> rw [h] <;> rfl

theorem flush_big (s : HState σ) : (flush hc s).big = s.big := by
  rcases flush_cases hc s with h | ⟨_, h⟩ | ⟨_, h⟩ | h <;> rw [h] <;> rfl

def entOf (s : HState σ) (r : Rec) : DiskEnt := { key := r.key, hash := r.hash, ver := r.ver, seq := s.seq, loc := r.loc }

/-- `submit` of an entry that is not young and exceeds the per-entry limit -/
def submitDropped (s : HState σ) (r : Rec) : HState σ :=
  { s with seq := s.seq + 1, keeper := assocDel s.keeper r.key,
           index := indexInsert s.index r.hash (.tomb s.seq),
           queue := s.queue ++ [.entry (entOf s r) false],
           subs := s.subs ++ [.entry (entOf s r) false] }

/-- `submit` of an entry that is not young and fits -/
def submitFits (s : HState σ) (r : Rec) : HState σ :=
  { s with seq := s.seq + 1, keeper := assocSet s.keeper r.key r,
           queue := s.queue ++ [.entry (entOf s r) true],
           subs := s.subs ++ [.entry (entOf s r) true] }

theorem submit_young (s : HState σ) (r : Rec) (hy : r.age = .young) : submit s r = s := by
  unfold submit
  rw [if_pos hy]

theorem submit_dropped (s : HState σ) (r : Rec) (hy : r.age ≠ .young) (hbig : s.big.contains r.ver = true) :
    submit s r = submitDropped s r := by
  unfold submit submitDropped
  rw [if_neg hy]
  simp only [hbig, if_true, entOf]

theorem submit_fits (s : HState σ) (r : Rec) (hy : r.age ≠ .young) (hbig : ¬ s.big.contains r.ver = true) :
    submit s r = submitFits s r := by
  unfold submit submitFits
  rw [if_neg hy]
  simp only [hbig, Bool.false_eq_true, if_false, entOf]

theorem submit_cases (s : HState σ) (r : Rec) :
    (r.age = .young ∧ submit s r = s) ∨
    (r.age ≠ .young ∧ s.big.contains r.ver = true ∧ submit s r = submitDropped s r) ∨
    (r.age ≠ .young ∧ ¬ s.big.contains r.ver = true ∧ submit s r = submitFits s r) := by
  by_cases hy : r.age = .young
  · exact Or.inl ⟨hy, submit_young s r hy⟩
  · by_cases hbig : s.big.contains r.ver = true
    · exact Or.inr (Or.inl ⟨hy, hbig, submit_dropped s r hy hbig⟩)
    · exact Or.inr (Or.inr ⟨hy, hbig, submit_fits s r hy hbig⟩)

theorem submit_mem (s : HState σ) (r : Rec) : (submit s r).mem = s.mem := by
  rcases submit_cases s r with ⟨_, h⟩ | ⟨_, _, h⟩ | ⟨_, _, h⟩ <;> rw [h] <;> rfl

theorem submit_held (s : HState σ) (r : Rec) : (submit s r).held = s.held := by
  rcases submit_cases s r with ⟨_, h⟩ | ⟨_, _, h⟩ | ⟨_, _, h⟩ <;> rw [h] <;> rfl

theorem submit_gated (s : HState σ) (r : Rec) : (submit s r).gated = s.gated := by
  rcases submit_cases s r with ⟨_, h⟩ | ⟨_, _, h⟩ | ⟨_, _, h⟩ <;> rw [h] <;> rfl

theorem submit_inflight (s : HState σ) (r : Rec) : (submit s r).inflight = s.inflight := by
  rcases submit_cases s r with ⟨_, h⟩ | ⟨_, _, h⟩ | ⟨_, _, h⟩ <;> rw [h] <;> rfl

theorem submit_big (s : HState σ) (r : Rec) : (submit s r).big = s.big := by
  rcases submit_cases s r with ⟨_, h⟩ | ⟨_, _, h⟩ | ⟨_, _, h⟩ <;> rw [h] <;> rfl

theorem pipeSend_big (s : HState σ) (r : Rec) : (pipeSend hc s r).big = s.big := by
  unfold pipeSend
  split
  · rfl
  · split
    · rfl
    · exact submit_big s r

theorem delete_mem (s : HState σ) (k : Nat) : (delete hc s k).mem = s.mem := rfl

theorem delete_subs (s : HState σ) (k : Nat) :
    (delete hc s k).subs = s.subs ++ [.tomb (hc.mcfg.H k) s.seq] := rfl

theorem pipe_closed {I : HState σ → Prop} (hsub : ∀ s r, r.loc ≠ .inMem → I s → I (submit s r)) :
    ∀ (l : List Rec) (s : HState σ), I s → I (l.foldl (pipeSend hc) s) := by
  intro l
  induction l with
  | nil => intro s h; exact h
  | cons r rs ih =>
    intro s h
    apply ih
    unfold pipeSend
    split
    · exact h
    · split
      · exact h
      · rename_i hl; exact hsub s r hl h

/-- **C12 (write-on-insertion: evictions write nothing)**. -/
theorem woi_eviction_writes_nothing (hw : hc.woi = true) (s : HState σ) (r : Rec) : pipeSend hc s r = s := by
  unfold pipeSend; simp [hw]

theorem foldl_pipeSend_woi (hw : hc.woi = true) (l : List Rec) (s : HState σ) : l.foldl (pipeSend hc) s = s := by
  induction l with
  | nil => rfl
  | cons r rs ih => rw [List.foldl_cons, woi_eviction_writes_nothing hc hw, ih]

theorem pipeSend_woe (he : hc.woi = false) (s : HState σ) (r : Rec) :
    pipeSend hc s r = if r.loc = .inMem then s else submit s r := by
  unfold pipeSend
  rw [he]
  simp only [Bool.false_eq_true, if_false]

theorem memOp_eq (s : HState σ) (op : Op) :
    (memOp P hc s op).1 = (Cache.step P hc.mcfg s.mem op).2.piped.foldl (pipeSend hc)
      { s with mem := (Cache.step P hc.mcfg s.mem op).1 } := by
  unfold memOp; rfl

theorem memOp_out (s : HState σ) (op : Op) :
    (memOp P hc s op).2 = (Cache.step P hc.mcfg s.mem op).2 := by
  unfold memOp; rfl

theorem memOp_closed {I : HState σ → Prop} (hsub : ∀ s r, r.loc ≠ .inMem → I s → I (submit s r)) {s : HState σ}
    (op : Op) (hm : I { s with mem := (Cache.step P hc.mcfg s.mem op).1 }) : I (memOp P hc s op).1 := by
  rw [memOp_eq]
  exact pipe_closed hc hsub _ _ hm

theorem memOp_mem (s : HState σ) (op : Op) :
    (memOp P hc s op).1.mem = (Cache.step P hc.mcfg s.mem op).1 :=
  memOp_closed P hc (I := fun s' => s'.mem = (Cache.step P hc.mcfg s.mem op).1)
    (fun s' r _ h => (submit_mem s' r).trans h) op rfl

/-- A predicate on submissions that holds for tombstones. -/
def SubsAll (Q : DiskEnt → Bool → Prop) (s : HState σ) : Prop :=
  ∀ x ∈ s.subs, match x with
    | .entry e f => Q e f
    | .tomb _ _ => True

theorem subsAll_of_eq {Q : DiskEnt → Bool → Prop} {s s' : HState σ} (h : s'.subs = s.subs) (hs : SubsAll Q s) :
    SubsAll Q s' := by
  unfold SubsAll; rw [h]; exact hs

theorem subsAll_snoc {Q : DiskEnt → Bool → Prop} {s s' : HState σ} {x : Sub}
    (hx : match x with | .entry e f => Q e f | .tomb _ _ => True) (hs : SubsAll Q s)
    (he : s'.subs = s.subs ++ [x]) : SubsAll Q s' := by
  unfold SubsAll; rw [he]
  intro y hy
  rcases List.mem_append.mp hy with hy | hy
  · exact hs y hy
  · rw [List.mem_singleton.mp hy]; exact hx

theorem submit_subsAll {Q : DiskEnt → Bool → Prop} (s : HState σ) (r : Rec) (hs : SubsAll Q s)
    (hr : r.age ≠ .young → ∀ f, Q (entOf s r) f) : SubsAll Q (submit s r) := by
  rcases submit_cases s r with ⟨_, h⟩ | ⟨hy, _, h⟩ | ⟨hy, _, h⟩ <;> rw [h]
  · exact hs
  · exact subsAll_snoc (s := s) (hr hy false) hs rfl
  · exact subsAll_snoc (s := s) (hr hy true) hs rfl

end
end Foyer.Hyb
