import FoyerModel.Policy
import FoyerProofs.Lemmas.LawfulBasic
/-
  A constructor for `Lawful` from permutation facts: it is enough to show how every operation
  permutes the member list.
-/
namespace Foyer

structure PermLaws {σ : Type} (P : Policy σ) (I : σ → Prop) : Prop where
  init_I : ∀ cap, I (P.init cap)
  init_members : ∀ cap, P.members (P.init cap) = []
  push : ∀ s r, I s → idsNodup (P.members s) → r.id ∉ (P.members s).map (·.id) →
    I (P.push s r) ∧ (P.members (P.push s r)).Perm (r :: P.members s)
  pop : ∀ s r s', I s → idsNodup (P.members s) → P.pop s = some (r, s') →
    I s' ∧ (P.members s).Perm (r :: P.members s')
  remove : ∀ s r, I s → idsNodup (P.members s) → r ∈ P.members s →
    I (P.remove s r) ∧ (P.members s).Perm (r :: P.members (P.remove s r))
  acquire : ∀ s r, I s → idsNodup (P.members s) →
    I (P.acquire s r) ∧ (P.members (P.acquire s r)).Perm (P.members s)
  release : ∀ s r, I s → idsNodup (P.members s) →
    I (P.release s r) ∧ (P.members (P.release s r)).Perm (P.members s)
  update : ∀ s c, I s → idsNodup (P.members s) →
    I (P.update s c) ∧ (P.members (P.update s c)).Perm (P.members s)
  clear : ∀ s, I s → idsNodup (P.members s) → I (P.clear s) ∧ P.members (P.clear s) = []

theorem mem_of_perm_cons {l l' : List Rec} {r : Rec} (hn : idsNodup l) (hp : l.Perm (r :: l')) :
    idsNodup l' ∧ r ∈ l ∧ ∀ x, x ∈ l' ↔ (x ∈ l ∧ x ≠ r) := by
  have hn' : idsNodup (r :: l') := (idsNodup_perm hp).mp hn
  rw [idsNodup_cons] at hn'
  refine ⟨hn'.2, hp.mem_iff.mpr List.mem_cons_self, fun x => ?_⟩
  constructor
  · intro hx
    exact ⟨hp.mem_iff.mpr (List.mem_cons_of_mem _ hx), fun e => hn'.1 x hx (by rw [e])⟩
  · rintro ⟨hx, hne⟩
    rcases List.mem_cons.mp (hp.mem_iff.mp hx) with rfl | h
    · exact absurd rfl hne
    · exact h

/-- `Ok` is the policy's own invariant `I` together with distinct member ids, in whatever form the user states it. -/
theorem Lawful.ofPerm {σ : Type} {P : Policy σ} {I Ok : σ → Prop} (L : PermLaws P I)
    (hOk : ∀ s, Ok s ↔ I s ∧ idsNodup (P.members s)) : Lawful P Ok :=
  have keep {s s' : σ} (h : Ok s) (k : I s' ∧ (P.members s').Perm (P.members s)) : Ok s' :=
    (hOk s').mpr ⟨k.1, (idsNodup_perm k.2).mpr ((hOk s).mp h).2⟩
  have take {s s' : σ} {r : Rec} (h : Ok s) (k : I s' ∧ (P.members s).Perm (r :: P.members s')) : Ok s' :=
    (hOk s').mpr ⟨k.1, (mem_of_perm_cons ((hOk s).mp h).2 k.2).1⟩
  have I_of {s : σ} (h : Ok s) : I s := ((hOk s).mp h).1
  have nd_of {s : σ} (h : Ok s) : idsNodup (P.members s) := ((hOk s).mp h).2
  { init_ok := fun cap => (hOk _).mpr ⟨L.init_I cap, by rw [L.init_members]; exact List.nodup_nil⟩
    init_members := L.init_members
    nodup := fun _ h => nd_of h
    push_ok := fun s r h hr => (hOk _).mpr ⟨(L.push s r (I_of h) (nd_of h) hr).1,
      (idsNodup_perm (L.push s r (I_of h) (nd_of h) hr).2).mpr (List.nodup_cons.mpr ⟨hr, nd_of h⟩)⟩
    push_mem := fun s r h hr x => by rw [(L.push s r (I_of h) (nd_of h) hr).2.mem_iff, List.mem_cons]
    pop_ok := fun s r s' h hp => take h (L.pop s r s' (I_of h) (nd_of h) hp)
    pop_mem := fun s r s' h hp => (mem_of_perm_cons (nd_of h) (L.pop s r s' (I_of h) (nd_of h) hp).2).2
    remove_ok := fun s r h hr => take h (L.remove s r (I_of h) (nd_of h) hr)
    remove_mem := fun s r h hr => (mem_of_perm_cons (nd_of h) (L.remove s r (I_of h) (nd_of h) hr).2).2.2
    acquire_ok := fun s r h => keep h (L.acquire s r (I_of h) (nd_of h))
    acquire_mem := fun s r h _ => (L.acquire s r (I_of h) (nd_of h)).2.mem_iff
    release_ok := fun s r h => keep h (L.release s r (I_of h) (nd_of h))
    release_mem := fun s r h _ => (L.release s r (I_of h) (nd_of h)).2.mem_iff
    update_ok := fun s c h => keep h (L.update s c (I_of h) (nd_of h))
    update_mem := fun s c h _ => (L.update s c (I_of h) (nd_of h)).2.mem_iff
    clear_ok := fun s h => (hOk _).mpr ⟨(L.clear s (I_of h) (nd_of h)).1,
      by rw [(L.clear s (I_of h) (nd_of h)).2]; exact List.nodup_nil⟩
    clear_mem := fun s h => (L.clear s (I_of h) (nd_of h)).2 }

end Foyer
