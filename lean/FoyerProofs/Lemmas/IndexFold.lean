import FoyerModel.Hybrid
import FoyerProofs.Lemmas.ListPerm
/-
  Association lists, and the sequence-guarded index one hash at a time: what `insert_batch` / `remove_batch`
  (the folds of `applyBatch`) do to the entry of a given hash is a fold of two small functions over the batch's
  items of that hash; the insert fold keeps an item of maximal sequence (`foldl_insOne_max`, `insAll_max`).
-/
namespace Foyer.Hyb

theorem assocGet_nil {β : Type} (k : Nat) : assocGet ([] : List (Nat × β)) k = none := rfl

theorem assocGet_cons {β : Type} (a : Nat × β) (l : List (Nat × β)) (k : Nat) :
    assocGet (a :: l) k = if a.1 = k then some a.2 else assocGet l k := find?_fst_cons a l k

theorem assocGet_del {β : Type} (l : List (Nat × β)) (k k' : Nat) :
    assocGet (assocDel l k) k' = if k' = k then none else assocGet l k' := by
  unfold assocGet assocDel
  rw [List.find?_filter]
  by_cases hk : k' = k
  · subst hk; simp
  · rw [if_neg hk]
    congr 2; funext a
    by_cases ha : a.1 = k' <;> simp [ha, hk]

theorem assocGet_set {β : Type} (l : List (Nat × β)) (k k' : Nat) (v : β) :
    assocGet (assocSet l k v) k' = if k' = k then some v else assocGet l k' := by
  unfold assocSet
  rw [assocGet_cons, assocGet_del]
  by_cases hk : k' = k
  · simp [hk]
  · have : ¬ k = k' := fun h => hk h.symm
    simp [hk, this]

theorem assocGet_mem {β : Type} {l : List (Nat × β)} {k : Nat} {v : β} (h : assocGet l k = some v) : (k, v) ∈ l :=
  mem_of_find?_fst h

/-- Insert a list of `(hash, item)` pairs. -/
def insAll (ix : List (Nat × Idx)) (L : List (Nat × Idx)) : List (Nat × Idx) :=
  L.foldl (fun ix p => indexInsert ix p.1 p.2) ix

def KeysNodup {β : Type} (l : List (Nat × β)) : Prop := (l.map (·.1)).Nodup

theorem assocGet_none_of_not_mem {β : Type} (l : List (Nat × β)) (k : Nat) (h : k ∉ l.map (·.1)) :
    assocGet l k = none := by
  simp only [assocGet, Option.map_eq_none_iff, List.find?_eq_none, decide_eq_true_eq]
  exact fun a ha e => h (e ▸ List.mem_map_of_mem ha)

theorem assocDel_keys_sub {β : Type} (l : List (Nat × β)) (k : Nat) :
    ((assocDel l k).map (·.1)).Sublist (l.map (·.1)) :=
  List.Sublist.map _ List.filter_sublist

theorem assocDel_not_mem {β : Type} (l : List (Nat × β)) (k : Nat) : k ∉ (assocDel l k).map (·.1) := by
  simp [assocDel]

theorem assocSet_nodup {β : Type} (l : List (Nat × β)) (k : Nat) (v : β) (h : KeysNodup l) :
    KeysNodup (assocSet l k v) := by
  unfold KeysNodup assocSet
  simp only [List.map_cons, List.nodup_cons]
  exact ⟨assocDel_not_mem l k, h.sublist (assocDel_keys_sub l k)⟩

theorem indexInsert_nodup (ix : List (Nat × Idx)) (h : Nat) (i : Idx) (hn : KeysNodup ix) :
    KeysNodup (indexInsert ix h i) := by
  unfold indexInsert
  split
  · exact assocSet_nodup ix h i hn
  · split
    · exact assocSet_nodup ix h i hn
    · exact hn

theorem insAll_nodup : ∀ {L : List (Nat × Idx)} {ix : List (Nat × Idx)}, KeysNodup ix → KeysNodup (insAll ix L) := by
  intro L
  induction L with
  | nil => intro ix h; exact h
  | cons p L ih => intro ix h; exact ih (indexInsert_nodup ix p.1 p.2 h)

theorem assocGet_filter {β : Type} (p : Nat × β → Bool) {l : List (Nat × β)} (k : Nat) (hn : KeysNodup l) :
    assocGet (l.filter p) k = (assocGet l k).bind fun v => if p (k, v) then some v else none := by
  induction l with
  | nil => rfl
  | cons a l ih =>
    unfold KeysNodup at hn
    simp only [List.map_cons, List.nodup_cons] at hn
    rw [assocGet_cons]
    simp only [List.filter_cons]
    by_cases hk : a.1 = k
    · rw [if_pos hk]
      simp only [Option.bind_some]
      have hak : (k, a.2) = a := by cases a; simp at hk ⊢; exact hk.symm
      rw [hak]
      by_cases hp : p a = true
      · rw [if_pos hp, if_pos hp, assocGet_cons, if_pos hk]
      · rw [if_neg hp, if_neg hp]
        apply assocGet_none_of_not_mem
        intro hm
        have : k ∈ l.map (·.1) := (List.Sublist.map _ List.filter_sublist).subset hm
        rw [← hk] at this
        exact hn.1 this
    · rw [if_neg hk]
      by_cases hp : p a = true
      · rw [if_pos hp, assocGet_cons, if_neg hk]; exact ih hn.2
      · rw [if_neg hp]; exact ih hn.2

theorem indexAddr_eq_some {ix : List (Nat × Idx)} {h : Nat} {e : DiskEnt} :
    indexAddr ix h = some e ↔ assocGet ix h = some (.addr e) := by
  unfold indexAddr
  constructor
  · intro he
    split at he
    · rename_i e' h'; cases he; exact h'
    · cases he
  · intro h'
    rw [h']

/-- `insert_inner` seen from one hash. -/
def insOne (c : Option Idx) (i : Idx) : Option Idx :=
  match c with
  | none => some i
  | some o => if i.seq ≥ o.seq then some i else some o

/-- `remove_batch` for one `(hash, sequence)` seen from that hash. -/
def remOne (c : Option Idx) (q : Nat) : Option Idx :=
  match c with
  | none => none
  | some o => if q ≥ o.seq then none else some o

theorem assocGet_indexInsert (ix : List (Nat × Idx)) (h h' : Nat) (i : Idx) :
    assocGet (indexInsert ix h i) h' = if h' = h then insOne (assocGet ix h) i else assocGet ix h' := by
  unfold indexInsert insOne
  cases ho : assocGet ix h with
  | none => exact assocGet_set ix h h' i
  | some old =>
    by_cases hs : i.seq ≥ old.seq
    · simp only [hs, if_true]
      exact assocGet_set ix h h' i
    · simp only [hs, if_false]
      split
      · rename_i hk; rw [hk, ho]
      · rfl

theorem assocGet_indexRemoveSeq (ix : List (Nat × Idx)) (h h' q : Nat) :
    assocGet (indexRemoveSeq ix h q) h' = if h' = h then remOne (assocGet ix h) q else assocGet ix h' := by
  unfold indexRemoveSeq
  cases hc : assocGet ix h with
  | none =>
    simp only [remOne]
    by_cases hh : h' = h
    · simp [hh, hc]
    · simp [hh]
  | some cur =>
    simp only [remOne]
    by_cases hq : q ≥ cur.seq
    · simp only [hq, if_true]
      rw [assocGet_del]
    · simp only [hq, if_false]
      by_cases hh : h' = h
      · simp [hh, hc]
      · simp [hh]

/-- A fold of per-hash updates, seen from one hash: only the items of that hash count. -/
theorem assocGet_foldl {α β γ : Type} {step : List (Nat × β) → α → List (Nat × β)} {key : α → Nat} {item : α → γ}
    {g : Option β → γ → Option β}
    (hstep : ∀ ix a h, assocGet (step ix a) h = if h = key a then g (assocGet ix (key a)) (item a) else assocGet ix h)
    (l : List α) (ix : List (Nat × β)) (h : Nat) :
    assocGet (l.foldl step ix) h = ((l.filter fun a => key a = h).map item).foldl g (assocGet ix h) := by
  induction l generalizing ix with
  | nil => rfl
  | cons a l ih =>
    rw [List.foldl_cons, ih, hstep]
    by_cases hk : key a = h
    · subst hk
      simp
    · have hk' : ¬ h = key a := fun e => hk e.symm
      simp [hk, hk']

theorem assocGet_foldl_indexInsert {α : Type} (key : α → Nat) (item : α → Idx) (l : List α) (ix : List (Nat × Idx)) (h : Nat) :
    assocGet (l.foldl (fun ix a => indexInsert ix (key a) (item a)) ix) h =
      ((l.filter fun a => key a = h).map item).foldl insOne (assocGet ix h) :=
  assocGet_foldl (fun ix a h => assocGet_indexInsert ix (key a) h (item a)) l ix h

theorem assocGet_foldl_indexRemoveSeq (l : List (Nat × Nat)) (ix : List (Nat × Idx)) (h : Nat) :
    assocGet (l.foldl (fun ix (p : Nat × Nat) => indexRemoveSeq ix p.1 p.2) ix) h =
      ((l.filter fun p => p.1 = h).map (·.2)).foldl remOne (assocGet ix h) :=
  assocGet_foldl (fun ix p h => assocGet_indexRemoveSeq ix p.1 h p.2) l ix h

theorem insOne_isSome (c : Option Idx) (i : Idx) : (insOne c i).isSome := by
  unfold insOne
  cases c with
  | none => rfl
  | some o => simp only; split <;> rfl

theorem insOne_max (c : Option Idx) (a : Idx) :
    (insOne c a = some a ∨ insOne c a = c) ∧
    ∀ m, insOne c a = some m → a.seq ≤ m.seq ∧ ∀ j, c = some j → j.seq ≤ m.seq := by
  unfold insOne
  cases c with
  | none => exact ⟨Or.inl rfl, fun m hm => ⟨by cases hm; exact Nat.le_refl _, fun j hj => (by cases hj)⟩⟩
  | some o =>
    simp only
    split
    · rename_i hge
      exact ⟨Or.inl rfl, fun m hm => ⟨by cases hm; exact Nat.le_refl _, fun j hj => (by cases hm; cases hj; exact hge)⟩⟩
    · rename_i hlt
      exact ⟨Or.inr rfl, fun m hm => ⟨by cases hm; omega, fun j hj => (by cases hm; cases hj; exact Nat.le_refl _)⟩⟩

theorem foldl_insOne_max : ∀ {l : List Idx} {c : Option Idx} {i : Idx}, l.foldl insOne c = some i →
    (i ∈ l ∨ c = some i) ∧ (∀ j ∈ l, j.seq ≤ i.seq) ∧ (∀ j, c = some j → j.seq ≤ i.seq) := by
  intro l
  induction l with
  | nil =>
    intro c i hi
    have hi' : c = some i := hi
    exact ⟨Or.inr hi', fun j hj => (by cases hj), fun j hj => (by rw [hi'] at hj; cases hj; exact Nat.le_refl _)⟩
  | cons a l ih =>
    intro c i hi
    obtain ⟨hsrc, hl, hc⟩ := ih (c := insOne c a) hi
    obtain ⟨m, hm⟩ := Option.isSome_iff_exists.mp (insOne_isSome c a)
    have hmi := hc m hm
    obtain ⟨ha, hcm⟩ := (insOne_max c a).2 m hm
    refine ⟨?_, ?_, fun j hj => Nat.le_trans (hcm j hj) hmi⟩
    · rcases hsrc with h1 | h1
      · exact Or.inl (List.mem_cons_of_mem _ h1)
      · rcases (insOne_max c a).1 with h2 | h2
        · left; rw [h2] at h1; cases h1; exact List.mem_cons_self
        · right; rw [← h2]; exact h1
    · intro j hj
      rcases List.mem_cons.mp hj with rfl | hj
      · exact Nat.le_trans ha hmi
      · exact hl j hj

theorem foldl_insOne_isSome : ∀ (l : List Idx) (c : Option Idx), (l ≠ [] ∨ c.isSome) → (l.foldl insOne c).isSome := by
  intro l
  induction l with
  | nil => intro c h; exact h.resolve_left (fun h => h rfl)
  | cons a l ih => intro c _; exact ih _ (Or.inr (insOne_isSome c a))

theorem mem_map_snd_filter {L : List (Nat × Idx)} {h : Nat} {j : Idx} :
    j ∈ (L.filter fun p => p.1 = h).map (·.2) ↔ (h, j) ∈ L := by
  simp

/-- **The index keeps, per hash, an item of maximal sequence** among what it held and everything
inserted (and that item is one of those). -/
theorem insAll_max : ∀ (L : List (Nat × Idx)) (ix : List (Nat × Idx)) (h : Nat) (i : Idx),
    assocGet (insAll ix L) h = some i →
    ((h, i) ∈ L ∨ assocGet ix h = some i) ∧ (∀ j, (h, j) ∈ L → j.seq ≤ i.seq) ∧
    (∀ j, assocGet ix h = some j → j.seq ≤ i.seq) := by
  intro L ix h i hi
  unfold insAll at hi
  rw [assocGet_foldl_indexInsert (fun p : Nat × Idx => p.1) (fun p => p.2)] at hi
  obtain ⟨h1, h2, h3⟩ := foldl_insOne_max hi
  exact ⟨h1.imp mem_map_snd_filter.mp id, fun j hj => h2 j (mem_map_snd_filter.mpr hj), h3⟩

theorem insAll_present (L : List (Nat × Idx)) (ix : List (Nat × Idx)) (h : Nat) (j : Idx) (hj : (h, j) ∈ L) :
    (assocGet (insAll ix L) h).isSome := by
  unfold insAll
  rw [assocGet_foldl_indexInsert (fun p : Nat × Idx => p.1) (fun p => p.2)]
  exact foldl_insOne_isSome _ _ (Or.inl (List.ne_nil_of_mem (mem_map_snd_filter.mpr hj)))

def seqLt (c : Option Idx) (n : Nat) : Prop := ∀ i, c = some i → i.seq < n

theorem seqLt_none (n : Nat) : seqLt none n := fun _ hi => by cases hi

theorem foldl_insOne_seqLt {l : List Idx} {c : Option Idx} {n : Nat} (hc : seqLt c n) (hl : ∀ i ∈ l, i.seq < n) :
    seqLt (l.foldl insOne c) n := fun i hi =>
  (foldl_insOne_max hi).1.elim (hl i) (hc i)

theorem insOne_seqLt {c : Option Idx} {i : Idx} {n : Nat} (hc : seqLt c n) (hi : i.seq < n) : seqLt (insOne c i) n :=
  fun j hj => by
    rcases (insOne_max c i).1 with h | h <;> rw [h] at hj
    · cases hj; exact hi
    · exact hc j hj

theorem insOne_top {c : Option Idx} {i : Idx} (hc : seqLt c i.seq) : insOne c i = some i := by
  unfold insOne
  cases c with
  | none => rfl
  | some o =>
    have := hc o rfl
    simp only
    rw [if_pos (by omega)]

/-- a removal only filters: the entry stays iff the removed sequence is below its own -/
theorem remOne_eq_filter (c : Option Idx) (q : Nat) : remOne c q = c.filter fun o => q < o.seq := by
  cases c with
  | none => rfl
  | some o =>
    simp only [remOne, Option.filter_some, ge_iff_le, decide_eq_true_eq]
    by_cases h : o.seq ≤ q
    · rw [if_pos h, if_neg (Nat.not_lt.mpr h)]
    · rw [if_neg h, if_pos (Nat.lt_of_not_le h)]

theorem foldl_remOne (l : List Nat) (c : Option Idx) :
    l.foldl remOne c = c.filter fun o => l.all (· < o.seq) := by
  induction l generalizing c with
  | nil => cases c <;> rfl
  | cons q l ih =>
    rw [List.foldl_cons, ih, remOne_eq_filter, Option.filter_filter]
    simp only [List.all_cons]

theorem foldl_remOne_sub {l : List Nat} {c : Option Idx} {i : Idx} (hr : l.foldl remOne c = some i) : c = some i :=
  (Option.filter_eq_some_iff.mp (foldl_remOne l c ▸ hr)).1

theorem foldl_remOne_seqLt {l : List Nat} {c : Option Idx} {n : Nat} (hc : seqLt c n) : seqLt (l.foldl remOne c) n :=
  fun i hi => hc i (foldl_remOne_sub hi)

theorem foldl_remOne_keep (l : List Nat) (i : Idx) (hl : ∀ q ∈ l, q < i.seq) : l.foldl remOne (some i) = some i := by
  rw [foldl_remOne, Option.filter_some, if_pos (List.all_eq_true.mpr fun q hq => decide_eq_true (hl q hq))]

theorem foldl_remOne_none : ∀ (l : List Nat), l.foldl remOne none = none :=
  fun l => foldl_remOne l none

theorem remOne_top {c : Option Idx} {q : Nat} (hc : seqLt c (q + 1)) : remOne c q = none := by
  rw [remOne_eq_filter, Option.filter_eq_none_iff]
  exact fun o ho => by simpa using Nat.le_of_lt_succ (hc o ho)

end Foyer.Hyb
