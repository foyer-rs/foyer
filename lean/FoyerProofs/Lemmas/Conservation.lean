import FoyerProofs.Lemmas.CacheInv
/-
  Conservation of records: per step, `admitted ++ findable before ~ findable after ++ left`.
  Each shard move conserves records (`ShardMove.spec`); `findable_mapShards_perm` adds the shards up.
-/
namespace Foyer

variable {σ : Type} {P : Policy σ} {Ok : σ → Prop}

theorem findable_mapShards_perm (F : Nat → Shard σ → Shard σ × List (Reason × Rec) × Bool) (A : Nat → List Rec) :
    ∀ (l : List (Shard σ)) (i0 : Nat),
      (∀ j s, l[j]? = some s → (A (i0 + j) ++ s.index).Perm ((F (i0 + j) s).1.index ++ leftRecs (F (i0 + j) s).2.1)) →
      ((List.range' i0 l.length).flatMap A ++ l.flatMap (·.index)).Perm
        ((mapShards F i0 l).1.flatMap (·.index) ++ leftRecs (mapShards F i0 l).2.1) := by
  intro l
  induction l with
  | nil => intro i0 _; simp [mapShards, leftRecs]
  | cons t ts ih =>
    intro i0 h
    have h0 := h 0 t rfl
    have hrest := ih (i0 + 1) fun j s hj => by
      rw [show i0 + 1 + j = i0 + (j + 1) by omega]; exact h (j + 1) s hj
    simp only [mapShards, List.flatMap_cons, leftRecs_append, List.length_cons, List.range'_succ]
    exact perm_par h0 hrest

/-- **Conservation, one step**: what was admitted plus what was findable = what is findable now
plus what left (ordinary records; every notification counted with its multiplicity). -/
theorem step_conservation (L : Lawful P Ok) {cfg : Cfg} {c : Cache σ} (hc : CacheInv P Ok cfg c) (op : Op) :
    (admittedOf op (Cache.step P cfg c op).2 ++ c.findable).Perm
      ((Cache.step P cfg c op).1.findable ++ leftRecs (Cache.step P cfg c op).2.leaves) := by
  obtain ⟨F, A, sh⟩ := step_shape P cfg c op
  have := findable_mapShards_perm F A c.shards 0 fun j s hs => by
    rw [Nat.zero_add]; exact (hc.move_spec L hs (sh.move j s hs)).2.perm
  rw [sh.admitted, if_neg (step_no_panic L hc op), Cache.findable, Cache.findable, sh.shards, List.range_eq_range']
  rcases sh.leaves with h | ⟨rid, r, _, _, hph, h, h0⟩
  · rw [h]; exact this
  · -- a disk-only record is not counted
    rw [h0] at this
    rw [h]
    simpa [leftRecs, hph] using this

end Foyer
