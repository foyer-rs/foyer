import FoyerProofs.Lemmas.CacheInv
/-
  "Protected" records: a set of members a policy promises never to pop (LRU: the pin list).
  `protected_step`: a protected record is never a victim of any operation, and stays protected
  unless the operation addresses it (drop of its handle, touch / remove / insert of its key, clear).
-/
namespace Foyer

variable {σ : Type}

structure Protects (P : Policy σ) (Ok : σ → Prop) (prot : σ → List Rec) : Prop where
  sub : ∀ s, Ok s → ∀ r ∈ prot s, r ∈ P.members s
  pop : ∀ s r s', Ok s → P.pop s = some (r, s') → r ∉ prot s ∧ prot s' = prot s
  push : ∀ s r, Ok s → r.id ∉ (P.members s).map (·.id) → prot (P.push s r) = prot s
  remove : ∀ s x, Ok s → x ∈ P.members s → ∀ r ∈ prot s, r ≠ x → r ∈ prot (P.remove s x)
  acquire : ∀ s x, Ok s → ∀ r ∈ prot s, r ∈ prot (P.acquire s x)
  acquire_pins : ∀ s x, Ok s → x ∈ P.members s → x ∈ prot (P.acquire s x)
  release : ∀ s x, Ok s → ∀ r ∈ prot s, r.id ≠ x.id → r ∈ prot (P.release s x)
  update : ∀ s c, Ok s → prot (P.update s c) = prot s

variable {P : Policy σ} {Ok : σ → Prop} {prot : σ → List Rec}

theorem Pops.protects (L : Lawful P Ok) (H : Protects P Ok prot) {e e' : σ} {vs : List Rec} (hp : Pops P e vs e')
    (hok : Ok e) : prot e' = prot e ∧ ∀ v ∈ vs, v ∉ prot e := by
  induction hp with
  | nil => exact ⟨rfl, by simp⟩
  | cons hpop _ ih =>
    obtain ⟨hnp, hpe⟩ := H.pop _ _ _ hok hpop
    obtain ⟨h1, h2⟩ := ih (L.pop_ok _ _ _ hok hpop)
    refine ⟨h1.trans hpe, fun v hv => ?_⟩
    rcases List.mem_cons.mp hv with rfl | hv
    · exact hnp
    · rw [← hpe]; exact h2 v hv

theorem evict_protects (L : Lawful P Ok) (H : Protects P Ok prot) {s : Shard σ} (h : ShardInv P Ok s) (target : Nat) :
    prot (Shard.evict P s target).1.ev = prot s.ev ∧ ∀ v ∈ (Shard.evict P s target).2.1, v ∉ prot s.ev := by
  obtain ⟨s1, vs, heq, e⟩ := evict_eq L h target
  rw [heq]; exact e.pops.protects L H h.ok

theorem link_prot (H : Protects P Ok prot) {s : Shard σ} (h : ShardInv P Ok s) {r : Rec}
    (hid : ∀ x ∈ s.index, x.id ≠ r.id) : prot (Shard.link P s r).ev = prot s.ev :=
  H.push _ _ h.ok (not_mem_ids_of_fresh h hid)

theorem unlink_prot (H : Protects P Ok prot) {s : Shard σ} (h : ShardInv P Ok s) {old r : Rec} (ho : old ∈ s.index)
    (hr : r ∈ prot s.ev) (hne : r ≠ old) : r ∈ prot (Shard.unlink P s old).ev := by
  rw [unlink_eq h ho]; exact H.remove s.ev old h.ok ((h.mem_iff old).mpr ho) r hr hne

/-- `emplace` evicts nothing protected and changes the protected set only by unlinking the key's old copy. -/
theorem emplace_prot (L : Lawful P Ok) (H : Protects P Ok prot) {s : Shard σ} (h : ShardInv P Ok s) {r : Rec}
    (hfr : ∀ x ∈ s.index, x.id ≠ r.id) :
    (∀ v, (Reason.evict, v) ∈ (Shard.emplace P s r).2.1 → v ∉ prot s.ev) ∧
    (prot (Shard.emplace P s r).1.ev = prot s.ev ∨
     ∃ t old, ShardInv P Ok t ∧ prot t.ev = prot s.ev ∧ old ∈ t.index ∧ old.key = r.key ∧
       prot (Shard.emplace P s r).1.ev = prot (Shard.unlink P t old).ev) := by
  cases hph : r.phantom with
  | true =>
    rw [emplace_phantom P s hph]
    split
    · rename_i old hold
      obtain ⟨ho, hk⟩ := findKey_some hold
      exact ⟨by simp, Or.inr ⟨s, old, h, rfl, ho, hk, rfl⟩⟩
    · exact ⟨by simp, Or.inl rfl⟩
  | false =>
    obtain ⟨s1, vs, _, m1, pops, heq⟩ := emplace_eq L h hph
    obtain ⟨hp1, hp2⟩ := pops.protects L H h.ok
    have hfr1 : ∀ x ∈ s1.index, x.id ≠ r.id := fun x hx => hfr x (m1.index_sub hx)
    rw [heq]
    split
    · rename_i old hold
      obtain ⟨ho, hk⟩ := findKey_some hold
      have m2 := unlink_moves L m1.inv ho
      refine ⟨fun v hv => hp2 v (by simpa using hv), Or.inr ⟨s1, old, m1.inv, hp1, ho, hk, ?_⟩⟩
      exact link_prot H m2.inv fun x hx => hfr1 x (m2.index_sub hx)
    · exact ⟨fun v hv => hp2 v (by simpa using hv), Or.inl ((link_prot H m1.inv hfr1).trans hp1)⟩

theorem EvictPrep.prot_eq (H : Protects P Ok prot) {c : Cache σ} {j : Nat} {s t : Shard σ} {op : Op} {target : Nat}
    (hp : EvictPrep P c j s op t target) (hok : Ok s.ev) : prot t.ev = prot s.ev := by
  cases hp with
  | resize cap => exact H.update s.ev _ hok
  | all => rfl

/-- A record protected in some shard. -/
def Cache.protected (prot : σ → List Rec) (c : Cache σ) (r : Rec) : Prop :=
  ∃ (i : Nat) (s : Shard σ), c.shards[i]? = some s ∧ r ∈ prot s.ev

/-- The operation is aimed at `r`: it drops `r`'s handle, touches / removes / inserts `r`'s key, or clears. -/
def Addresses (r : Rec) (op : Op) : Prop :=
  op = .drop r.id ∨ op = .touch r.key ∨ op = .remove r.key ∨ (∃ v w h p l a, op = .ins r.key v w h p l a) ∨ op = .clear

theorem addresses_iff {r : Rec} {op : Op} : Addresses r op ↔
    (op = .drop r.id ∨ op = .touch r.key ∨ op = .remove r.key ∨ (∃ v w h p l a, op = .ins r.key v w h p l a) ∨ op = .clear) :=
  Iff.rfl

namespace Addresses
variable {r : Rec}

theorem drop {rid : Nat} (h : r.id = rid) : Addresses r (.drop rid) := Or.inl (by rw [h])

theorem touch {key : Nat} (h : r.key = key) : Addresses r (.touch key) := Or.inr (Or.inl (by rw [h]))

theorem remove {key : Nat} (h : r.key = key) : Addresses r (.remove key) := Or.inr (Or.inr (Or.inl (by rw [h])))

theorem ins {key : Nat} (h : r.key = key) (v w : Nat) (hint : Hint) (p : Bool) (l : Loc) (a : Age) :
    Addresses r (.ins key v w hint p l a) :=
  Or.inr (Or.inr (Or.inr (Or.inl ⟨v, w, hint, p, l, a, by rw [h]⟩)))

theorem clear : Addresses r .clear := Or.inr (Or.inr (Or.inr (Or.inr rfl)))

end Addresses

theorem ShardMove.protects (L : Lawful P Ok) (H : Protects P Ok prot) {cfg : Cfg} {c : Cache σ} {j : Nat} {s : Shard σ}
    {op : Op} {adm : List Rec} {res : Shard σ × List (Reason × Rec) × Bool} (mv : ShardMove P cfg c j s op adm res)
    (h : ShardInv P Ok s) (hfr : ∀ x ∈ s.index, x.id < c.nextId) {r : Rec} (hr : r ∈ prot s.ev) :
    (Reason.evict, r) ∉ res.2.1 ∧ (r ∈ prot res.1.ev ∨ Addresses r op) := by
  have hrm : r ∈ P.members s.ev := H.sub s.ev h.ok r hr
  cases mv with
  | stay => exact ⟨by simp, Or.inl hr⟩
  | emplace key ver weight hint phantom loc age =>
    obtain ⟨hev, hp⟩ := emplace_prot (r := { id := c.nextId, key, hash := cfg.H key, ver, weight, hint, phantom, loc, age })
      L H h fun x hx => Nat.ne_of_lt (hfr x hx)
    refine ⟨fun hm => hev r hm hr, ?_⟩
    rcases hp with hp | ⟨t, old, ht, hpt, ho, hk, hp⟩
    · exact Or.inl (hp ▸ hr)
    · by_cases hne : r = old
      · exact Or.inr (.ins (hne ▸ hk) ..)
      · exact Or.inl (hp ▸ unlink_prot H ht ho (hpt ▸ hr) hne)
  | acquire => exact ⟨by simp, Or.inl (H.acquire s.ev _ h.ok r hr)⟩
  | @touch key x _ hf =>
    refine ⟨by simp, ?_⟩
    obtain ⟨hx, hk⟩ := findKey_some hf
    by_cases hne : x = r
    · exact Or.inr (.touch (hne ▸ hk))
    · left
      have ha := H.acquire s.ev x h.ok r hr
      split
      · exact H.release _ x (L.acquire_ok _ x h.ok) r ha fun e =>
          hne (eq_of_id_eq (L.nodup s.ev h.ok) ((h.mem_iff x).mpr hx) hrm e.symm)
      · exact ha
  | @unlink key x _ hf =>
    obtain ⟨hx, hk⟩ := findKey_some hf
    refine ⟨by simp, ?_⟩
    by_cases hne : r = x
    · exact Or.inr (.remove (hne ▸ hk))
    · exact Or.inl (unlink_prot H h hx hr hne)
  | @release rid x hf =>
    refine ⟨by simp, ?_⟩
    by_cases hne : r.id = x.id
    · exact Or.inr (.drop (hne.trans (heldFind_id hf)))
    · exact Or.inl (H.release s.ev x h.ok r hr hne)
  | clear => exact ⟨by simp, Or.inr .clear⟩
  | evict t target hp =>
    obtain ⟨h1, h2⟩ := evict_protects L H (hp.moves L h).inv target
    have hpt := hp.prot_eq H h.ok
    exact ⟨fun hm => h2 r (mem_map_pair.mp hm).2 (hpt ▸ hr), Or.inl (by rw [h1, hpt]; exact hr)⟩

theorem protected_step (L : Lawful P Ok) (H : Protects P Ok prot) {cfg : Cfg} (hn : 0 < cfg.nshards)
    {c : Cache σ} (hc : CacheInv P Ok cfg c) (r : Rec) (hr : Cache.protected prot c r) (op : Op) :
    (Reason.evict, r) ∉ (Cache.step P cfg c op).2.leaves ∧
    (Cache.protected prot (Cache.step P cfg c op).1 r ∨ op = .drop r.id ∨ op = .touch r.key ∨
      op = .remove r.key ∨ (∃ v w h p l a, op = .ins r.key v w h p l a) ∨ op = .clear) := by
  obtain ⟨i, s, hs, hrs⟩ := hr
  obtain ⟨F, A, sh⟩ := step_shape P cfg c op
  have hsi := hc.shard i s hs
  have hri : r ∈ s.index := (hsi.mem_iff r).mp (H.sub s.ev hsi.ok r hrs)
  obtain ⟨hnot, hstay⟩ := (sh.move i s hs).protects L H hsi (hc.fresh i s hs) hrs
  refine ⟨fun hm => ?_, hstay.imp (fun h => ⟨i, (F i s).1, by rw [sh.shards_getElem?, hs]; rfl, h⟩) addresses_iff.mp⟩
  rcases sh.of_mem_leaves hm with ⟨j, t, ht, mv, hx⟩ | ⟨rid, x, _, _, hph, hm⟩
  · -- `r` is reported by shard `j`, so it was indexed there: `j` is `r`'s own shard
    have m := (hc.move_spec L ht mv).2
    have hrl : r ∈ leftRecs (F j t).2.1 := mem_leftRecs.mpr ⟨hc.real i s hs r hri, _, hx⟩
    rcases m.mem_out hrl with h | h
    · exact absurd (mv.adm_spec r h).1 (Nat.ne_of_lt (hc.fresh i s hs r hri))
    · have : j = i := by rw [← (hc.placed j t ht r h).2, (hc.placed i s hs r hri).2]
      subst this
      rw [hs] at ht; cases ht
      exact hnot hx
  · cases hm
    rw [hc.real i s hs r hri] at hph; cases hph

theorem get_pins (H : Protects P Ok prot) {cfg : Cfg} {c : Cache σ} (hc : CacheInv P Ok cfg c) {k : Nat} {r : Rec}
    (h : (Cache.step P cfg c (.get k)).2.ret = Ret.handle r) : Cache.protected prot (Cache.step P cfg c (.get k)).1 r := by
  cases hl : Cache.lookup cfg c k with
  | none => rcases (step_get_miss P hl).ret with e | e <;> rw [e] at h <;> cases h
  | some x =>
    have hit := step_get_hit P hl
    obtain ⟨s, hs, hx, hsh⟩ := hit.shards
    rw [hit.ret] at h; cases h
    have hsi := hc.shard _ s hs
    refine ⟨cfg.shardOf (cfg.H k), { s with ev := P.acquire s.ev r }, ?_,
      H.acquire_pins s.ev r hsi.ok ((hsi.mem_iff r).mpr (findKey_some hx).1)⟩
    rw [hsh, setAt_eq_set, List.getElem?_set_self (List.getElem?_eq_some_iff.mp hs).1]

end Foyer
