import FoyerModel.Conc
/-
  Atomic sections are linearizable: for every interleaving of `invoke / atomic step / respond`
  actions over any sequential object, the order of the atomic steps is a legal sequential history
  that contains every completed call with the result it returned and respects real time.

  The invariant `J` is inductive because call ids are handed out in increasing order: the id of a new
  invocation is above every id in the history, and the id a thread carries is carried by no other thread
  and by no response.
-/
namespace Foyer.Conc

variable {S O R : Type}

def carries (st : TStatus O R) (id : Nat) : Prop :=
  match st with
  | .idle => False
  | .pending i _ => i = id
  | .done i _ _ => i = id

/-- What a thread's status promises about the history: a pending call was invoked, a finished one
was linearized with the result the thread holds. -/
def ThOk (invs : List (InvEv O)) (lins : List (LinRec O R)) : TStatus O R → Prop
  | .idle => True
  | .pending id op => ∃ i ∈ invs, i.id = id ∧ i.op = op
  | .done id op r => ∃ l ∈ lins, l.id = id ∧ l.op = op ∧ l.ret = r

theorem ThOk.mono {invs invs' : List (InvEv O)} {lins lins' : List (LinRec O R)} {st : TStatus O R}
    (h : ThOk invs lins st) (hi : ∀ i ∈ invs, i ∈ invs') (hl : ∀ l ∈ lins, l ∈ lins') : ThOk invs' lins' st := by
  cases st with
  | idle => trivial
  | pending id op => obtain ⟨i, h1, h2⟩ := h; exact ⟨i, hi i h1, h2⟩
  | done id op r => obtain ⟨l, h1, h2⟩ := h; exact ⟨l, hl l h1, h2⟩

structure J (o : SeqObj S O R) (c : CState S O R) : Prop where
  legal : seqRun o o.init (c.lins.map (·.op)) = (c.obj, c.lins.map (·.ret))
  t_inv : ∀ e ∈ c.invs, e.time < c.time
  t_res : ∀ e ∈ c.ress, e.time < c.time
  t_lin : ∀ e ∈ c.lins, e.time < c.time
  sorted : c.lins.Pairwise (fun a b => a.time < b.time)
  id_lin : ∀ e ∈ c.lins, e.id < c.nextId
  id_res : ∀ e ∈ c.ress, e.id < c.nextId
  id_th : ∀ t id, carries (c.th t) id → id < c.nextId
  th_distinct : ∀ t u id, carries (c.th t) id → carries (c.th u) id → t = u
  res_finished : ∀ e ∈ c.ress, ∀ t, ¬ carries (c.th t) e.id
  th_ok : ∀ t, ThOk c.invs c.lins (c.th t)
  lin_after_inv : ∀ l ∈ c.lins, (∀ i ∈ c.invs, i.id = l.id → i.time < l.time) ∧
    ∃ i ∈ c.invs, i.id = l.id ∧ i.op = l.op
  res_after_lin : ∀ e ∈ c.ress, (∀ l ∈ c.lins, l.id = e.id → l.time < e.time) ∧
    ∃ l ∈ c.lins, l.id = e.id ∧ l.ret = e.ret

theorem seqRun_append (o : SeqObj S O R) (s : S) (ops : List O) (op : O) :
    seqRun o s (ops ++ [op]) =
      ((o.step (seqRun o s ops).1 op).1, (seqRun o s ops).2 ++ [(o.step (seqRun o s ops).1 op).2]) := by
  induction ops generalizing s with
  | nil => simp [seqRun]
  | cons x xs ih =>
    simp only [List.cons_append, seqRun]
    rw [ih]

theorem J_init (o : SeqObj S O R) : J o (CState.init o) := by
  constructor <;> simp [CState.init, carries, seqRun, ThOk]

theorem forall_snoc {α : Type} {p : α → Prop} {l : List α} {a : α} (hl : ∀ x ∈ l, p x) (ha : p a) :
    ∀ x ∈ l ++ [a], p x :=
  List.forall_mem_append.mpr ⟨hl, List.forall_mem_singleton.mpr ha⟩

theorem carries_setTh {th : Nat → TStatus O R} {t u : Nat} {st : TStatus O R} {id : Nat}
    (h : carries (setTh th t st u) id) : (u = t ∧ carries st id) ∨ (u ≠ t ∧ carries (th u) id) := by
  unfold setTh at h
  split at h
  · exact .inl ⟨‹_›, h⟩
  · exact .inr ⟨‹_›, h⟩

theorem thOk_setTh {invs : List (InvEv O)} {lins : List (LinRec O R)} {th : Nat → TStatus O R} {t : Nat}
    {st : TStatus O R} (hst : ThOk invs lins st) (hth : ∀ u, u ≠ t → ThOk invs lins (th u)) (u : Nat) :
    ThOk invs lins (setTh th t st u) := by
  unfold setTh
  split
  · exact hst
  · exact hth u ‹_›

theorem J_step (o : SeqObj S O R) (c : CState S O R) (h : J o c) (a : Action O) : J o (cstep o c a) := by
  have bump : J o { c with time := c.time + 1 } :=
    { h with t_inv := fun e he => Nat.lt_succ_of_lt (h.t_inv e he), t_res := fun e he => Nat.lt_succ_of_lt (h.t_res e he),
             t_lin := fun e he => Nat.lt_succ_of_lt (h.t_lin e he) }
  cases a with
  | inv t op =>
    simp only [cstep]
    cases hst : c.th t with
    | pending id op' => exact bump
    | done id op' r => exact bump
    | idle =>
      -- the new id is above every id in the history
      have fresh : ∀ {id}, id < c.nextId → id ≠ c.nextId := fun h e => Nat.lt_irrefl _ (e ▸ h)
      exact
        { legal := h.legal
          t_inv := forall_snoc (fun e he => Nat.lt_succ_of_lt (h.t_inv e he)) (Nat.lt_succ_self _)
          t_res := fun e he => Nat.lt_succ_of_lt (h.t_res e he)
          t_lin := fun e he => Nat.lt_succ_of_lt (h.t_lin e he)
          sorted := h.sorted
          id_lin := fun e he => Nat.lt_succ_of_lt (h.id_lin e he)
          id_res := fun e he => Nat.lt_succ_of_lt (h.id_res e he)
          id_th := fun u id hc => (carries_setTh hc).elim (fun h1 => h1.2 ▸ Nat.lt_succ_self _)
            fun h1 => Nat.lt_succ_of_lt (h.id_th u id h1.2)
          th_distinct := fun u v id hu hv => by
            rcases carries_setTh hu with ⟨hu1, hu2⟩ | ⟨_, hu2⟩ <;> rcases carries_setTh hv with ⟨hv1, hv2⟩ | ⟨_, hv2⟩
            · rw [hu1, hv1]
            · exact absurd hu2.symm (fresh (h.id_th v id hv2))
            · exact absurd hv2.symm (fresh (h.id_th u id hu2))
            · exact h.th_distinct u v id hu2 hv2
          res_finished := fun e he u hc => (carries_setTh hc).elim
            (fun h1 => fresh (h.id_res e he) h1.2.symm) fun h1 => h.res_finished e he u h1.2
          th_ok := thOk_setTh ⟨_, List.mem_append_right _ (List.mem_singleton.mpr rfl), rfl, rfl⟩
            fun u _ => (h.th_ok u).mono (fun _ => List.mem_append_left _) fun _ hl => hl
          lin_after_inv := fun l hl =>
            have ⟨h1, i, hi, h2⟩ := h.lin_after_inv l hl
            ⟨forall_snoc h1 fun hid => absurd hid.symm (fresh (h.id_lin l hl)), i, List.mem_append_left _ hi, h2⟩
          res_after_lin := h.res_after_lin }
  | lin t =>
    simp only [cstep]
    cases hst : c.th t with
    | idle => exact bump
    | done id op' r => exact bump
    | pending id op =>
      have carr : ∀ {u i}, carries (setTh c.th t (.done id op (o.step c.obj op).2) u) i → carries (c.th u) i :=
        fun hc => (carries_setTh hc).elim (fun h1 => h1.1 ▸ hst ▸ h1.2) fun h1 => h1.2
      have hth : ThOk c.invs c.lins (.pending id op) := hst ▸ h.th_ok t
      exact
        { legal := by
            simp only [List.map_append, List.map_cons, List.map_nil]
            rw [seqRun_append, h.legal]
          t_inv := fun e he => Nat.lt_succ_of_lt (h.t_inv e he)
          t_res := fun e he => Nat.lt_succ_of_lt (h.t_res e he)
          t_lin := forall_snoc (fun e he => Nat.lt_succ_of_lt (h.t_lin e he)) (Nat.lt_succ_self _)
          sorted := List.pairwise_append.mpr ⟨h.sorted, List.pairwise_singleton _ _,
            fun a ha b hb => List.mem_singleton.mp hb ▸ h.t_lin a ha⟩
          id_lin := forall_snoc h.id_lin (h.id_th t id (hst ▸ rfl))
          id_res := h.id_res
          id_th := fun u i hc => h.id_th u i (carr hc)
          th_distinct := fun u v i hu hv => h.th_distinct u v i (carr hu) (carr hv)
          res_finished := fun e he u hc => h.res_finished e he u (carr hc)
          th_ok := thOk_setTh ⟨_, List.mem_append_right _ (List.mem_singleton.mpr rfl), rfl, rfl, rfl⟩
            fun u _ => (h.th_ok u).mono (fun _ hi => hi) (fun _ => List.mem_append_left _)
          lin_after_inv := forall_snoc h.lin_after_inv ⟨fun j hj _ => h.t_inv j hj, hth⟩
          -- no response carries the id of the call linearized now: its thread still carries it
          res_after_lin := fun e he =>
            have ⟨h1, l, hl, h2⟩ := h.res_after_lin e he
            ⟨forall_snoc h1 fun hid => absurd (hst ▸ hid : carries (c.th t) e.id) (h.res_finished e he t),
             l, List.mem_append_left _ hl, h2⟩ }
  | res t =>
    simp only [cstep]
    cases hst : c.th t with
    | idle => exact bump
    | pending id op => exact bump
    | done id op r =>
      have carr : ∀ {u i}, carries (setTh c.th t .idle u) i → u ≠ t ∧ carries (c.th u) i :=
        fun hc => (carries_setTh hc).elim (fun h1 => h1.2.elim) fun h1 => h1
      have hid : carries (c.th t) id := hst ▸ rfl
      have hth : ThOk c.invs c.lins (.done id op r) := hst ▸ h.th_ok t
      exact
        { legal := h.legal
          t_inv := fun e he => Nat.lt_succ_of_lt (h.t_inv e he)
          t_res := forall_snoc (fun e he => Nat.lt_succ_of_lt (h.t_res e he)) (Nat.lt_succ_self _)
          t_lin := fun e he => Nat.lt_succ_of_lt (h.t_lin e he)
          sorted := h.sorted
          id_lin := h.id_lin
          id_res := forall_snoc h.id_res (h.id_th t id hid)
          id_th := fun u i hc => h.id_th u i (carr hc).2
          th_distinct := fun u v i hu hv => h.th_distinct u v i (carr hu).2 (carr hv).2
          -- the responding thread was the only one carrying the id
          res_finished := forall_snoc (fun e he u hc => h.res_finished e he u (carr hc).2)
            fun u hc => (carr hc).1 (h.th_distinct u t id (carr hc).2 hid)
          th_ok := thOk_setTh trivial fun u _ => h.th_ok u
          lin_after_inv := h.lin_after_inv
          res_after_lin := forall_snoc h.res_after_lin
            (have ⟨l, hl, h2, _, h4⟩ := hth
             ⟨fun l' hl' _ => h.t_lin l' hl', l, hl, h2, h4⟩) }

theorem J_run (o : SeqObj S O R) (as : List (Action O)) : ∀ c, J o c → J o (crun o c as) := by
  induction as with
  | nil => intro c h; exact h
  | cons a as ih => intro c h; exact ih _ (J_step o c h a)

end Foyer.Conc
