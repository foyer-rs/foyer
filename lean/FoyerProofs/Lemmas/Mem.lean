import FoyerModel.Mem
import FoyerProofs.Lemmas.ListRec
import FoyerProofs.Lemmas.LawfulBasic
/-
  The shard layer, for an arbitrary lawful policy.  A shard transition is described by the invariant of
  its target and one multiset equation, `admitted ++ index before ~ index after ++ reported` (`Moves`);
  accounting and membership facts are corollaries.  Transitions compose; the primitive ones: a record
  leaves (`leave_moves`: the eviction loop and `Shard.unlink`), a record enters (`link_moves`), only the
  policy state changes (`ev_moves`; with the capacity, `update_moves`).
-/
namespace Foyer

variable {σ : Type}

/-- Representation invariant of one shard. -/
structure ShardInv (P : Policy σ) (Ok : σ → Prop) (s : Shard σ) : Prop where
  ok : Ok s.ev
  mem_iff : ∀ r, r ∈ P.members s.ev ↔ r ∈ s.index
  keys : keysNodup s.index
  usage_eq : s.usage = wsum s.index
  entries_eq : s.entries = s.index.length

variable {P : Policy σ} {Ok : σ → Prop}

/-- A shard transition `s → s'` that admits `adm` and reports `out`: nothing else enters or leaves the index. -/
structure Moves (P : Policy σ) (Ok : σ → Prop) (s s' : Shard σ) (adm out : List Rec) : Prop where
  inv : ShardInv P Ok s'
  perm : (adm ++ s.index).Perm (s'.index ++ out)

namespace Moves
variable {s s' s'' : Shard σ} {adm out adm' out' : List Rec}

theorem refl (h : ShardInv P Ok s) : Moves P Ok s s [] [] := ⟨h, by simp⟩

theorem trans (m : Moves P Ok s s' adm out) (m' : Moves P Ok s' s'' adm' out') :
    Moves P Ok s s'' (adm ++ adm') (out ++ out') :=
  ⟨m'.inv, perm_seq m.perm m'.perm⟩

theorem usage (h : ShardInv P Ok s) (m : Moves P Ok s s' adm out) :
    s'.usage + wsum out = s.usage + wsum adm := by
  have := wsum_perm m.perm
  rw [wsum_append, wsum_append, ← h.usage_eq, ← m.inv.usage_eq] at this
  omega

theorem entries (h : ShardInv P Ok s) (m : Moves P Ok s s' adm out) :
    s'.entries + out.length = s.entries + adm.length := by
  have := m.perm.length_eq
  rw [List.length_append, List.length_append, ← h.entries_eq, ← m.inv.entries_eq] at this
  omega

theorem mem_index (m : Moves P Ok s s' adm out) {x : Rec} (hx : x ∈ s'.index) : x ∈ adm ∨ x ∈ s.index :=
  List.mem_append.mp (m.perm.mem_iff.mpr (List.mem_append_left _ hx))

theorem mem_out (m : Moves P Ok s s' adm out) {x : Rec} (hx : x ∈ out) : x ∈ adm ∨ x ∈ s.index :=
  List.mem_append.mp (m.perm.mem_iff.mpr (List.mem_append_right _ hx))

theorem index_sub (m : Moves P Ok s s' [] out) {x : Rec} (hx : x ∈ s'.index) : x ∈ s.index :=
  (m.mem_index hx).resolve_left fun h => nomatch h

theorem out_sub (m : Moves P Ok s s' [] out) {x : Rec} (hx : x ∈ out) : x ∈ s.index :=
  (m.mem_out hx).resolve_left fun h => nomatch h

theorem out_nodup (h : ShardInv P Ok s) (m : Moves P Ok s s' [] out) :
    out.Nodup ∧ ∀ x, x ∈ s'.index ↔ (x ∈ s.index ∧ x ∉ out) := by
  have hnd := (m.perm.nodup_iff).mp (nodup_of_keysNodup h.keys)
  rw [List.nodup_append] at hnd
  refine ⟨hnd.2.1, fun x => ⟨fun hx => ⟨m.index_sub hx, fun ho => hnd.2.2 x hx x ho rfl⟩, ?_⟩⟩
  rintro ⟨hx, hno⟩
  exact (List.mem_append.mp (m.perm.mem_iff.mp hx)).resolve_right hno

end Moves

theorem ev_moves {s : Shard σ} (h : ShardInv P Ok s) {ev' : σ} (hok : Ok ev')
    (hm : ∀ x, x ∈ P.members ev' ↔ x ∈ P.members s.ev) : Moves P Ok s { s with ev := ev' } [] [] :=
  ⟨⟨hok, fun x => (hm x).trans (h.mem_iff x), h.keys, h.usage_eq, h.entries_eq⟩, by simp⟩

theorem update_moves (L : Lawful P Ok) {s : Shard σ} (h : ShardInv P Ok s) (sc : Nat) :
    Moves P Ok s { s with ev := P.update s.ev sc, cap := sc } [] [] :=
  ⟨⟨L.update_ok _ _ h.ok, fun x => (L.update_mem _ _ h.ok x).trans (h.mem_iff x), h.keys, h.usage_eq, h.entries_eq⟩,
    by simp⟩

theorem leave_moves {s : Shard σ} (h : ShardInv P Ok s) {r : Rec} (hr : r ∈ s.index) {ev' : σ} (hok : Ok ev')
    (hm : ∀ x, x ∈ P.members ev' ↔ (x ∈ P.members s.ev ∧ x ≠ r)) :
    Moves P Ok s { s with ev := ev', index := eraseKey r.key s.index,
                          usage := s.usage - r.weight, entries := s.entries - 1 } [] [r] := by
  have hp := perm_eraseKey h.keys (findKey_of_mem h.keys hr)
  have hw := wsum_perm hp
  have hl := hp.length_eq
  simp only [wsum, List.length_cons] at hw hl
  refine ⟨⟨hok, fun x => ?_, keysNodup_eraseKey h.keys, ?_, ?_⟩, ?_⟩
  · rw [hm, h.mem_iff, mem_eraseKey]
    exact and_congr_right fun hx => not_congr ⟨fun e => e ▸ rfl, eq_of_key_eq h.keys hx hr⟩
  · show s.usage - r.weight = wsum (eraseKey r.key s.index)
    have := h.usage_eq; omega
  · show s.entries - 1 = (eraseKey r.key s.index).length
    have := h.entries_eq; omega
  · exact hp.trans (List.perm_append_comm (l₁ := [r]))

/-- What `emplace` does last: index the record and hand it to the policy. -/
def Shard.link (P : Policy σ) (s : Shard σ) (r : Rec) : Shard σ :=
  { s with index := r :: s.index, ev := P.push s.ev r, usage := s.usage + r.weight, entries := s.entries + 1 }

theorem not_mem_ids_of_fresh {s : Shard σ} (h : ShardInv P Ok s) {r : Rec} (hid : ∀ x ∈ s.index, x.id ≠ r.id) :
    r.id ∉ (P.members s.ev).map (·.id) := by
  intro hc
  obtain ⟨x, hx, hxe⟩ := List.mem_map.mp hc
  exact hid x ((h.mem_iff x).mp hx) hxe

theorem link_moves (L : Lawful P Ok) {s : Shard σ} (h : ShardInv P Ok s) {r : Rec}
    (hid : ∀ x ∈ s.index, x.id ≠ r.id) (hkey : ∀ x ∈ s.index, x.key ≠ r.key) :
    Moves P Ok s (Shard.link P s r) [r] [] := by
  have hnotin := not_mem_ids_of_fresh h hid
  refine ⟨⟨L.push_ok _ _ h.ok hnotin, fun x => ?_, keysNodup_cons.mpr ⟨hkey, h.keys⟩, ?_, ?_⟩, by simp [Shard.link]⟩
  · show x ∈ P.members (P.push s.ev r) ↔ x ∈ r :: s.index
    rw [L.push_mem _ _ h.ok hnotin, List.mem_cons, h.mem_iff]
  · show s.usage + r.weight = wsum (r :: s.index)
    simp only [wsum]; have := h.usage_eq; omega
  · show s.entries + 1 = (r :: s.index).length
    simp only [List.length_cons]; have := h.entries_eq; omega

theorem unlink_eq {s : Shard σ} (h : ShardInv P Ok s) {old : Rec} (ho : old ∈ s.index) :
    Shard.unlink P s old = { s with ev := P.remove s.ev old, index := eraseKey old.key s.index,
                                    usage := s.usage - old.weight, entries := s.entries - 1 } := by
  simp only [Shard.unlink, hasId_iff.mpr ⟨old, (h.mem_iff old).mpr ho, rfl⟩, if_true]

theorem unlink_moves (L : Lawful P Ok) {s : Shard σ} (h : ShardInv P Ok s) {old : Rec} (ho : old ∈ s.index) :
    Moves P Ok s (Shard.unlink P s old) [] [old] := by
  have hm := (h.mem_iff old).mpr ho
  rw [unlink_eq h ho]
  exact leave_moves h ho (L.remove_ok _ _ h.ok hm) (L.remove_mem _ _ h.ok hm)

/-- The policy pops `vs`, in this order, on its way from the first state to the last. -/
inductive Pops (P : Policy σ) : σ → List Rec → σ → Prop
  | nil (e : σ) : Pops P e [] e
  | cons {e e' e'' : σ} {r : Rec} {vs : List Rec} : P.pop e = some (r, e') → Pops P e' vs e'' → Pops P e (r :: vs) e''

/-- What the eviction loop with `target` achieves from `s`: it ends in `s'` having popped `vs`. -/
structure Evicted (P : Policy σ) (Ok : σ → Prop) (target : Nat) (s s' : Shard σ) (vs : List Rec) : Prop where
  moves : Moves P Ok s s' [] vs
  pops : Pops P s.ev vs s'.ev
  cap : s'.cap = s.cap
  /-- every eviction was necessary: usage was still above the target just before it -/
  needed : ∀ pre v post, vs = pre ++ v :: post → s.usage - wsum pre > target
  done : s'.usage ≤ target ∨ P.pop s'.ev = none

theorem evictLoop_evicted (L : Lawful P Ok) (target : Nat) :
    ∀ (fuel : Nat) (s : Shard σ) (acc : List Rec), ShardInv P Ok s → s.index.length < fuel →
      ∃ s' vs, evictLoop P target fuel s acc = (s', acc ++ vs, false) ∧ Evicted P Ok target s s' vs := by
  intro fuel
  induction fuel with
  | zero => intro s acc _ hf; omega
  | succ fuel ih =>
    intro s acc h hf
    have stop : (s.usage ≤ target ∨ P.pop s.ev = none) →
        ∃ s' vs, (s, acc, false) = (s', acc ++ vs, false) ∧ Evicted P Ok target s s' vs := fun hd =>
      ⟨s, [], by simp, Moves.refl h, .nil _, rfl, fun pre v post hh => by simp at hh, hd⟩
    unfold evictLoop
    split
    · rename_i hgt
      split
      · rename_i hpop; exact stop (Or.inr hpop)
      · rename_i r ev' hpop
        have hpm := L.pop_mem s.ev r ev' h.ok hpop
        have hri : r ∈ s.index := (h.mem_iff r).mp hpm.1
        simp only [findKey_of_mem h.keys hri, if_true]
        have m1 := leave_moves h hri (L.pop_ok s.ev r ev' h.ok hpop) hpm.2
        have hl : s.index.length = (eraseKey r.key s.index).length + 1 := by simpa using m1.perm.length_eq
        obtain ⟨s', vs, heq, e⟩ := ih _ (acc ++ [r]) m1.inv (by
          show (eraseKey r.key s.index).length < fuel; omega)
        refine ⟨s', r :: vs, by rw [heq]; simp, m1.trans e.moves, .cons hpop e.pops, e.cap, ?_, e.done⟩
        intro pre v post hh
        cases pre with
        | nil => simp [wsum]; omega
        | cons p ps =>
          simp only [List.cons_append, List.cons.injEq] at hh
          obtain ⟨rfl, hh⟩ := hh
          have := e.needed ps v post hh
          simp only [wsum] at this ⊢
          omega
    · exact stop (Or.inl (by omega))

theorem evict_eq (L : Lawful P Ok) {s : Shard σ} (h : ShardInv P Ok s) (target : Nat) :
    ∃ s1 vs, Shard.evict P s target = (s1, vs, false) ∧ Evicted P Ok target s s1 vs :=
  evictLoop_evicted L target _ s [] h (Nat.lt_succ_self _)

/-- What `RawCacheShard::evict(target)` guarantees. -/
structure EvictSpec (P : Policy σ) (Ok : σ → Prop) (target : Nat) (s : Shard σ) (acc : List Rec)
    (res : Shard σ × List Rec × Bool) : Prop where
  no_panic : res.2.2 = false
  inv : ShardInv P Ok res.1
  cap_eq : res.1.cap = s.cap
  victims : ∃ vs, res.2.1 = acc ++ vs ∧
    res.1.usage + wsum vs = s.usage ∧
    res.1.entries + vs.length = s.entries ∧
    (∀ pre v post, vs = pre ++ v :: post → s.usage - wsum pre > target) ∧
    (∀ x, x ∈ res.1.index ↔ (x ∈ s.index ∧ x ∉ vs)) ∧
    (∀ v ∈ vs, v ∈ s.index) ∧ vs.Nodup
  done : res.1.usage ≤ target ∨ P.pop res.1.ev = none

theorem evict_spec (L : Lawful P Ok) {s : Shard σ} (h : ShardInv P Ok s) (target : Nat) : EvictSpec P Ok target s [] (Shard.evict P s target) := by
  obtain ⟨s', vs, heq, e⟩ := evict_eq L h target
  rw [heq]
  have m := e.moves
  have hu := m.usage h
  have he := m.entries h
  obtain ⟨hnd, hidx⟩ := m.out_nodup h
  simp only [wsum, List.length_nil, Nat.add_zero] at hu he
  exact ⟨rfl, m.inv, e.cap, ⟨vs, rfl, hu, he, e.needed, hidx, fun v hv => m.out_sub hv, hnd⟩, e.done⟩

end Foyer
