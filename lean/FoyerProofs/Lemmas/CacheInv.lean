import FoyerProofs.Lemmas.StepShape
/-
  The cache-level invariant and its preservation by every operation (`step_inv`), hence by every
  operation sequence (`run_inv`); no operation reaches a panic (`step_no_panic`).  Both are
  `ShardMove.spec` read through `step_shape`.
-/
namespace Foyer

variable {σ : Type} {P : Policy σ} {Ok : σ → Prop}

structure CacheInv (P : Policy σ) (Ok : σ → Prop) (cfg : Cfg) (c : Cache σ) : Prop where
  len : c.shards.length = cfg.nshards
  shard : ∀ (i : Nat) (s : Shard σ), c.shards[i]? = some s → ShardInv P Ok s
  placed : ∀ (i : Nat) (s : Shard σ), c.shards[i]? = some s →
    ∀ r ∈ s.index, r.hash = cfg.H r.key ∧ cfg.shardOf r.hash = i
  fresh : ∀ (i : Nat) (s : Shard σ), c.shards[i]? = some s → ∀ r ∈ s.index, r.id < c.nextId
  /-- disk-only (phantom) records are never indexed -/
  real : ∀ (i : Nat) (s : Shard σ), c.shards[i]? = some s → ∀ r ∈ s.index, r.phantom = false

theorem lookup_key {cfg : Cfg} {c : Cache σ} {k : Nat} {r : Rec} (h : Cache.lookup cfg c k = some r) : r.key = k := by
  unfold Cache.lookup at h
  split at h
  · cases h
  · exact (findKey_some h).2

theorem CacheInv.shard_lt {cfg : Cfg} {c : Cache σ} (hc : CacheInv P Ok cfg c) (hn : 0 < cfg.nshards) (k : Nat) :
    cfg.shardOf (cfg.H k) < c.shards.length := by
  rw [hc.len]; exact Nat.mod_lt _ hn

theorem mem_findable_of_shard {c : Cache σ} {i : Nat} {s : Shard σ} (hs : c.shards[i]? = some s) {x : Rec}
    (hx : x ∈ s.index) : x ∈ c.findable := by
  unfold Cache.findable
  rw [List.mem_flatMap]
  exact ⟨s, List.mem_of_getElem? hs, hx⟩

theorem lookup_of_findable {cfg : Cfg} {c : Cache σ} (hc : CacheInv P Ok cfg c) {r : Rec} (hr : r ∈ c.findable) :
    Cache.lookup cfg c r.key = some r := by
  unfold Cache.findable at hr
  rw [List.mem_flatMap] at hr
  obtain ⟨s, hs, hrs⟩ := hr
  obtain ⟨i, hi⟩ := List.getElem?_of_mem hs
  have hpl := hc.placed i s hi r hrs
  unfold Cache.lookup
  rw [← hpl.1, hpl.2, hi]
  exact findKey_of_mem (hc.shard i s hi).keys hrs

theorem findable_of_lookup {cfg : Cfg} {c : Cache σ} {k : Nat} {r : Rec} (h : Cache.lookup cfg c k = some r) :
    r ∈ c.findable := by
  unfold Cache.lookup at h
  split at h
  · cases h
  · rename_i s hs
    exact mem_findable_of_shard hs (findKey_some h).1

theorem CacheInv.move_spec (L : Lawful P Ok) {cfg : Cfg} {c : Cache σ} (hc : CacheInv P Ok cfg c) {j : Nat} {s : Shard σ}
    (hs : c.shards[j]? = some s) {op : Op} {adm : List Rec} {res : Shard σ × List (Reason × Rec) × Bool}
    (mv : ShardMove P cfg c j s op adm res) : res.2.2 = false ∧ Moves P Ok s res.1 adm (leftRecs res.2.1) :=
  mv.spec L (hc.shard j s hs) (hc.fresh j s hs) (hc.real j s hs)

theorem step_no_panic (L : Lawful P Ok) {cfg : Cfg} {c : Cache σ} (hc : CacheInv P Ok cfg c) (op : Op) :
    (Cache.step P cfg c op).2.ret ≠ Ret.panic := by
  obtain ⟨F, A, sh⟩ := step_shape P cfg c op
  intro hp
  have := mapShards_no_panic F c.shards 0 fun j s hs => by
    rw [Nat.zero_add]; exact (hc.move_spec L hs (sh.move j s hs)).1
  rw [sh.panic hp] at this
  cases this

theorem step_inv (L : Lawful P Ok) {cfg : Cfg} (hn : 0 < cfg.nshards) {c : Cache σ}
    (hc : CacheInv P Ok cfg c) (op : Op) : CacheInv P Ok cfg (Cache.step P cfg c op).1 := by
  obtain ⟨F, A, sh⟩ := step_shape P cfg c op
  have key : ∀ j t, (Cache.step P cfg c op).1.shards[j]? = some t → ∃ s, c.shards[j]? = some s ∧ ShardInv P Ok t ∧
      ∀ x ∈ t.index, x ∈ s.index ∨ (x.id < (Cache.step P cfg c op).1.nextId ∧
        x.hash = cfg.H x.key ∧ cfg.shardOf x.hash = j ∧ x.phantom = false) := by
    intro j t ht
    obtain ⟨s, hs, mv, rfl⟩ := sh.of_getElem? ht
    have m := (hc.move_spec L hs mv).2
    refine ⟨s, hs, m.inv, fun x hx => (m.mem_index hx).symm.imp_right fun hx => ?_⟩
    obtain ⟨hid, hrest⟩ := mv.adm_spec x hx
    exact ⟨by rw [(sh.of_mem_adm hs hx).1, hid]; exact Nat.lt_succ_self _, hrest⟩
  refine ⟨by rw [sh.shards, mapShards_length, hc.len], fun j t ht => ?_, fun j t ht x hx => ?_, fun j t ht x hx => ?_,
    fun j t ht x hx => ?_⟩
  · obtain ⟨s, _, h, _⟩ := key j t ht; exact h
  · obtain ⟨s, hs, _, h⟩ := key j t ht
    rcases h x hx with h | h
    · exact hc.placed j s hs x h
    · exact ⟨h.2.1, h.2.2.1⟩
  · obtain ⟨s, hs, _, h⟩ := key j t ht
    rcases h x hx with h | h
    · exact Nat.lt_of_lt_of_le (hc.fresh j s hs x h) sh.nextId_le
    · exact h.1
  · obtain ⟨s, hs, _, h⟩ := key j t ht
    rcases h x hx with h | h
    · exact hc.real j s hs x h
    · exact h.2.2.2

theorem new_getElem? {P : Policy σ} {cfg : Cfg} {cap : Nat} {i : Nat} {s : Shard σ}
    (h : (Cache.new P cfg cap).shards[i]? = some s) : s = Shard.new P (shardCapacityFor cap cfg.nshards i) := by
  simp only [Cache.new, List.getElem?_map] at h
  cases hr : (List.range cfg.nshards)[i]? with
  | none => simp [hr] at h
  | some j =>
    simp only [hr, Option.map_some, Option.some.injEq] at h
    obtain ⟨_, e⟩ := List.getElem?_eq_some_iff.mp hr
    have : j = i := by simpa using e.symm
    subst this; exact h.symm

theorem findable_new (P : Policy σ) (cfg : Cfg) (cap : Nat) : (Cache.new P cfg cap).findable = [] := by
  simp only [Cache.findable, Cache.new, List.flatMap_map]
  simp [Shard.new]

theorem lookup_new (P : Policy σ) (cfg : Cfg) (cap k : Nat) : Cache.lookup cfg (Cache.new P cfg cap) k = none := by
  simp only [Cache.lookup, Cache.new, List.getElem?_map]
  cases (List.range cfg.nshards)[cfg.shardOf (cfg.H k)]? <;> simp [Shard.new, findKey]

theorem new_inv (L : Lawful P Ok) (cfg : Cfg) (cap : Nat) : CacheInv P Ok cfg (Cache.new P cfg cap) := by
  refine ⟨by simp [Cache.new], ?_, ?_, ?_, ?_⟩
  · intro i s h
    rw [new_getElem? h]
    exact ⟨L.init_ok _, by intro x; simp [Shard.new, L.init_members], by simp [Shard.new, keysNodup], by simp [Shard.new, wsum], by simp [Shard.new]⟩
  · intro i s h r hr; rw [new_getElem? h] at hr; simp [Shard.new] at hr
  · intro i s h r hr; rw [new_getElem? h] at hr; simp [Shard.new] at hr
  · intro i s h r hr; rw [new_getElem? h] at hr; simp [Shard.new] at hr

theorem Cache.run_cons (P : Policy σ) (cfg : Cfg) (c : Cache σ) (op : Op) (ops : List Op) :
    Cache.run P cfg c (op :: ops) =
      ((Cache.run P cfg (Cache.step P cfg c op).1 ops).1,
       (Cache.step P cfg c op).2 :: (Cache.run P cfg (Cache.step P cfg c op).1 ops).2) := rfl

theorem Cache.run_induction {P : Policy σ} {cfg : Cfg} {I : Cache σ → Prop}
    (hstep : ∀ c op, I c → I (Cache.step P cfg c op).1) : ∀ (ops : List Op) (c : Cache σ), I c → I (Cache.run P cfg c ops).1 := by
  intro ops
  induction ops with
  | nil => intro c hc; exact hc
  | cons op ops ih => intro c hc; exact ih _ (hstep c op hc)

theorem run_inv (L : Lawful P Ok) {cfg : Cfg} (hn : 0 < cfg.nshards) :
    ∀ (ops : List Op) (c : Cache σ), CacheInv P Ok cfg c → CacheInv P Ok cfg (Cache.run P cfg c ops).1 :=
  Cache.run_induction fun _ op hc => step_inv L hn hc op

end Foyer
