import FoyerModel.Policies.Lru
import FoyerProofs.Lemmas.LawfulOfPerm
/-
  LRU is a lawful policy.  Of its extra representation invariant (`LruI`) the theorems use `hw_eq` (`hw` is the
  weight of `high`: the bound on the high pool); that the flags agree with the lists is kept but nothing reads it.
-/
namespace Foyer

def entW : List LruEnt → Nat
  | [] => 0
  | e :: es => e.r.weight + entW es

theorem entW_eq_sum (l : List LruEnt) : entW l = (l.map (·.r.weight)).sum := by
  induction l with
  | nil => rfl
  | cons x xs ih => simp [entW, ih]

theorem entW_append (a b : List LruEnt) : entW (a ++ b) = entW a + entW b := by
  simp [entW_eq_sum]

theorem entW_perm {a b : List LruEnt} (h : a.Perm b) : entW a = entW b := by
  simpa [entW_eq_sum] using (h.map (·.r.weight)).sum_nat

/-- Extra invariant of the LRU state. -/
structure LruI (s : Lru) : Prop where
  hw_eq : s.hw = entW s.high
  high_flag : ∀ e ∈ s.high, e.inHigh = true
  low_flag : ∀ e ∈ s.low, e.inHigh = false

def lruEnts (s : Lru) : List LruEnt := s.low ++ s.high ++ s.pin

theorem lru_members (capFn : Nat → Nat) (s : Lru) : (lruPolicy capFn).members s = (lruEnts s).map (·.r) := rfl

/- `LruI` ignores `pin` and `hpCap`: left free below, so that the lemmas fit every `{ s with .. }`. -/

theorem LruI.empty (pin : List LruEnt) (cap : Nat) : LruI { high := [], low := [], pin := pin, hw := 0, hpCap := cap } :=
  ⟨rfl, fun _ h => (nomatch h), fun _ h => (nomatch h)⟩

theorem LruI.push_high {s : Lru} (hi : LruI s) {e : LruEnt} (he : e.inHigh = true) (pin : List LruEnt) :
    LruI { s with high := s.high ++ [e], hw := s.hw + e.r.weight, pin := pin } where
  hw_eq := by simp [entW_append, entW, hi.hw_eq]
  high_flag x hx := (List.mem_append.mp hx).elim (hi.high_flag x) fun h => List.mem_singleton.mp h ▸ he
  low_flag := hi.low_flag

theorem LruI.push_low {s : Lru} (hi : LruI s) {e : LruEnt} (he : e.inHigh = false) (pin : List LruEnt) :
    LruI { s with low := s.low ++ [e], pin := pin } where
  hw_eq := hi.hw_eq
  high_flag := hi.high_flag
  low_flag x hx := (List.mem_append.mp hx).elim (hi.low_flag x) fun h => List.mem_singleton.mp h ▸ he

theorem LruI.take_high {s : Lru} (hi : LruI s) {e : LruEnt} {high : List LruEnt} (hp : s.high.Perm (e :: high))
    (pin : List LruEnt) : LruI { s with high := high, hw := s.hw - e.r.weight, pin := pin } where
  hw_eq := by
    have h : entW s.high = e.r.weight + entW high := entW_perm hp
    show s.hw - e.r.weight = entW high
    rw [hi.hw_eq, h, Nat.add_sub_cancel_left]
  high_flag x hx := hi.high_flag x (hp.mem_iff.mpr (List.mem_cons_of_mem _ hx))
  low_flag := hi.low_flag

theorem LruI.frame {s : Lru} (hi : LruI s) (pin : List LruEnt) (cap : Nat) : LruI { s with pin := pin, hpCap := cap } :=
  ⟨hi.hw_eq, hi.high_flag, hi.low_flag⟩

theorem LruI.take_low {s : Lru} (hi : LruI s) {low : List LruEnt} (hs : ∀ x ∈ low, x ∈ s.low) (pin : List LruEnt) :
    LruI { s with low := low, pin := pin } :=
  ⟨hi.hw_eq, hi.high_flag, fun x hx => hi.low_flag x (hs x hx)⟩

theorem withOverflow_step {s : Lru} {e : LruEnt} {hs : List LruEnt} (hh : s.high = e :: hs) (h : s.hw > s.hpCap) :
    Lru.withOverflow s = Lru.withOverflow
      { s with high := hs, low := s.low ++ [{ e with inHigh := false }], hw := s.hw - e.r.weight } := by
  simp only [Lru.withOverflow, hh, lruOverflow, h, if_true]

theorem withOverflow_stop {s : Lru} (h : s.high = [] ∨ s.hw ≤ s.hpCap) : Lru.withOverflow s = s := by
  obtain ⟨high, low, pin, hw, cap⟩ := s
  cases high with
  | nil => rfl
  | cons e hs =>
    have : ¬ hw > cap := Nat.not_lt.mpr (h.resolve_left (by simp))
    simp only [Lru.withOverflow, lruOverflow, this, if_false]

theorem withOverflow_pin (s : Lru) : (Lru.withOverflow s).pin = s.pin := rfl

theorem withOverflow_spec (s : Lru) (hi : LruI s) :
    LruI (Lru.withOverflow s) ∧ (lruEnts (Lru.withOverflow s)).map (·.r) = (lruEnts s).map (·.r) ∧
    ((Lru.withOverflow s).hw ≤ s.hpCap ∨ (Lru.withOverflow s).high = []) := by
  induction hh : s.high generalizing s with
  | nil => rw [withOverflow_stop (.inl hh)]; exact ⟨hi, rfl, .inr hh⟩
  | cons e hs ih =>
    by_cases h : s.hw > s.hpCap
    · rw [withOverflow_step hh h]
      refine (ih _ ((hi.take_high (hh ▸ .refl _) s.pin).push_low rfl s.pin) rfl).imp_right
        (.imp_left fun h => h.trans ?_)
      simp [lruEnts, hh]
    · rw [withOverflow_stop (.inr (Nat.le_of_not_lt h))]; exact ⟨hi, rfl, .inl (Nat.le_of_not_lt h)⟩

theorem LruI.overflow {s : Lru} (hi : LruI s) {l : List Rec} (hp : ((lruEnts s).map (·.r)).Perm l) :
    LruI (Lru.withOverflow s) ∧ ((lruEnts (Lru.withOverflow s)).map (·.r)).Perm l :=
  ⟨(withOverflow_spec s hi).1, (withOverflow_spec s hi).2.1 ▸ hp⟩

theorem withOverflow_bounded {s : Lru} (hi : LruI s) : (Lru.withOverflow s).hw ≤ (Lru.withOverflow s).hpCap :=
  (withOverflow_spec s hi).2.2.elim id fun h => by rw [(withOverflow_spec s hi).1.hw_eq, h]; exact Nat.zero_le _

theorem findEnt_some {i : Nat} {l : List LruEnt} {e : LruEnt} (h : findEnt i l = some e) :
    e ∈ l ∧ e.r.id = i := find?_key (f := fun e : LruEnt => e.r.id) h

theorem findEnt_none {i : Nat} {l : List LruEnt} (h : findEnt i l = none) : ∀ e ∈ l, e.r.id ≠ i :=
  fun e he hid => List.find?_eq_none.mp h e he (decide_eq_true hid)

theorem eraseEnt_of_none {i : Nat} {l : List LruEnt} (h : ∀ e ∈ l, e.r.id ≠ i) : eraseEnt i l = l :=
  List.filter_eq_self.mpr fun e he => decide_eq_true (h e he)

theorem mem_eraseEnt {i : Nat} {l : List LruEnt} {x : LruEnt} : x ∈ eraseEnt i l ↔ x ∈ l ∧ x.r.id ≠ i := by
  simp [eraseEnt]

theorem mem_map_eraseEnt {l : List LruEnt} {i : Nat} {r : Rec} :
    r ∈ (eraseEnt i l).map (·.r) ↔ r ∈ l.map (·.r) ∧ r.id ≠ i := by
  simp only [List.mem_map, mem_eraseEnt]
  constructor
  · rintro ⟨e, ⟨he, hne⟩, rfl⟩; exact ⟨⟨e, he, rfl⟩, hne⟩
  · rintro ⟨⟨e, he, rfl⟩, hne⟩; exact ⟨e, ⟨he, hne⟩, rfl⟩

theorem perm_eraseEnt {i : Nat} {l : List LruEnt} {e : LruEnt} (hn : idsNodup (l.map (·.r)))
    (h : findEnt i l = some e) : l.Perm (e :: eraseEnt i l) :=
  perm_eraseBy LruEnt.r hn (findEnt_some h).1 (findEnt_some h).2

theorem lru_nodup_parts {capFn : Nat → Nat} {s : Lru} (hn : idsNodup ((lruPolicy capFn).members s)) :
    idsNodup (s.low.map (·.r)) ∧ idsNodup (s.high.map (·.r)) ∧ idsNodup (s.pin.map (·.r)) := by
  apply idsNodup_parts
  rw [← List.map_append, ← List.map_append]
  exact hn

theorem lru_pop_some {capFn : Nat → Nat} {s s' : Lru} {r : Rec} (hp : (lruPolicy capFn).pop s = some (r, s')) :
    ∃ e rest, r = e.r ∧ ((s.low = e :: rest ∧ s' = { s with low := rest }) ∨
      (s.low = [] ∧ s.high = e :: rest ∧ s' = { s with high := rest, hw := s.hw - e.r.weight })) := by
  dsimp only [lruPolicy] at hp
  split at hp
  · rename_i hl
    cases hp
    exact ⟨_, _, rfl, .inl ⟨hl, rfl⟩⟩
  · rename_i hl
    split at hp
    · rename_i hh
      cases hp
      exact ⟨_, _, rfl, .inr ⟨hl, hh, rfl⟩⟩
    · cases hp

theorem lru_pop_none {capFn : Nat → Nat} {s : Lru} (hp : (lruPolicy capFn).pop s = none) : s.low = [] ∧ s.high = [] := by
  dsimp only [lruPolicy] at hp
  split at hp
  · cases hp
  · split at hp
    · cases hp
    · exact ⟨‹_›, ‹_›⟩

theorem lru_permLaws (capFn : Nat → Nat) : PermLaws (lruPolicy capFn) LruI where
  init_I cap := .empty _ _
  init_members cap := rfl
  push s r hi hn hr := by
    dsimp only [lruPolicy]
    split
    · exact (hi.push_high (e := ⟨r, true⟩) rfl s.pin).overflow
        ((((List.perm_append_singleton _ s.high).with_prefix s.low).append_right s.pin).map LruEnt.r)
    · exact ⟨hi.push_low (e := ⟨r, false⟩) rfl s.pin,
        (((List.perm_append_singleton _ s.low).append_right s.high).append_right s.pin).map LruEnt.r⟩
  pop s r s' hi hn hp := by
    obtain ⟨e, rest, rfl, ⟨hl, rfl⟩ | ⟨_, hh, rfl⟩⟩ := lru_pop_some hp
    · have hp : s.low.Perm (e :: rest) := .of_eq hl
      exact ⟨hi.take_low (fun x hx => hp.mem_iff.mpr (List.mem_cons_of_mem _ hx)) s.pin,
        ((hp.append_right s.high).append_right s.pin).map LruEnt.r⟩
    · have hp : s.high.Perm (e :: rest) := .of_eq hh
      exact ⟨hi.take_high hp s.pin, ((hp.with_prefix s.low).append_right s.pin).map LruEnt.r⟩
  remove s r hi hn hr := by
    obtain ⟨hnl, hnh, hnp⟩ := lru_nodup_parts hn
    have same : ∀ e ∈ lruEnts s, e.r.id = r.id → e.r = r :=
      fun e he hid => eq_of_id_eq hn (List.mem_map_of_mem he) hr hid
    dsimp only [lruPolicy]
    split
    · rename_i e hf
      cases same e (List.mem_append_right _ (findEnt_some hf).1) (findEnt_some hf).2
      exact ⟨hi.frame _ _, ((perm_eraseEnt hnp hf).with_prefix (s.low ++ s.high)).map LruEnt.r⟩
    · rename_i hfp
      split
      · rename_i e hf
        cases same e (List.mem_append_left _ (List.mem_append_right _ (findEnt_some hf).1)) (findEnt_some hf).2
        have hp := perm_eraseEnt hnh hf
        exact ⟨hi.take_high hp s.pin, ((hp.with_prefix s.low).append_right s.pin).map LruEnt.r⟩
      · rename_i hfh
        obtain ⟨e, he, rfl⟩ := List.mem_map.mp hr
        have hel : e ∈ s.low := by
          rcases List.mem_append.mp he with h | h
          · exact (List.mem_append.mp h).resolve_right fun h => findEnt_none hfh e h rfl
          · exact absurd rfl (findEnt_none hfp e h)
        exact ⟨hi.take_low (fun x hx => (mem_eraseEnt.mp hx).1) s.pin,
          (((perm_eraseBy LruEnt.r hnl hel rfl).append_right s.high).append_right s.pin).map LruEnt.r⟩
  acquire s r hi hn := by
    obtain ⟨hnl, hnh, hnp⟩ := lru_nodup_parts hn
    dsimp only [lruPolicy]
    split
    · rename_i e hf
      have hp := perm_eraseEnt hnh hf
      exact ⟨hi.take_high hp _,
        (((List.perm_append_singleton e s.pin).with_prefix (s.low ++ eraseEnt r.id s.high)).trans
          ((hp.with_prefix s.low).append_right s.pin).symm).map LruEnt.r⟩
    · split
      · rename_i e hf
        exact ⟨hi.take_low (fun x hx => (mem_eraseEnt.mp hx).1) _,
          (((List.perm_append_singleton e s.pin).with_prefix (eraseEnt r.id s.low ++ s.high)).trans
            (((perm_eraseEnt hnl hf).append_right s.high).append_right s.pin).symm).map LruEnt.r⟩
      · exact ⟨hi, .refl _⟩
  release s r hi hn := by
    obtain ⟨hnl, hnh, hnp⟩ := lru_nodup_parts hn
    dsimp only [lruPolicy]
    split
    · exact ⟨hi, .refl _⟩
    · rename_i e hf
      have hp := ((perm_eraseEnt hnp hf).with_prefix (s.low ++ s.high)).symm
      split
      · rename_i hflag
        exact (hi.push_high hflag (eraseEnt r.id s.pin)).overflow
          (((((List.perm_append_singleton e s.high).with_prefix s.low).append_right _).trans hp).map LruEnt.r)
      · rename_i hflag
        exact ⟨hi.push_low (by simpa using hflag) _,
          (((((List.perm_append_singleton e s.low).append_right s.high).append_right _).trans hp).map LruEnt.r)⟩
  update s c hi hn :=
    (hi.frame s.pin (capFn c)).overflow (.refl _)
  clear s hi hn := ⟨.empty _ _, rfl⟩

section Pin
variable (capFn : Nat → Nat) (s : Lru) (x : Rec)

theorem lru_push_pin : ((lruPolicy capFn).push s x).pin = s.pin := by
  dsimp only [lruPolicy]
  split <;> rfl

theorem lru_remove_pin : ((lruPolicy capFn).remove s x).pin = eraseEnt x.id s.pin := by
  dsimp only [lruPolicy]
  split
  · rfl
  · rename_i h
    rw [eraseEnt_of_none (findEnt_none h)]
    split <;> rfl

theorem lru_release_pin : ((lruPolicy capFn).release s x).pin = eraseEnt x.id s.pin := by
  dsimp only [lruPolicy]
  split
  · rename_i h; exact (eraseEnt_of_none (findEnt_none h)).symm
  · split <;> rfl

theorem lru_acquire_pin :
    ((lruPolicy capFn).acquire s x).pin = s.pin ++ (findEnt x.id (s.high ++ s.low)).toList := by
  rw [findEnt, List.find?_append]
  dsimp only [lruPolicy, findEnt]
  cases s.high.find? fun e => e.r.id = x.id with
  | some e => rfl
  | none =>
    cases s.low.find? fun e => e.r.id = x.id with
    | some e => rfl
    | none => exact (List.append_nil _).symm

end Pin

theorem lru_lawful (capFn : Nat → Nat) :
    Lawful (lruPolicy capFn) (fun s => LruI s ∧ idsNodup ((lruPolicy capFn).members s)) :=
  Lawful.ofPerm (lru_permLaws capFn) fun _ => Iff.rfl

end Foyer
