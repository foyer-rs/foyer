import FoyerModel.Mem
/-
  The handle table (`Cache.held`): what `heldInc` and `heldDec` do to `heldFind` and `heldCnt`.
-/
namespace Foyer

theorem heldFind_id {held : List (Rec × Nat)} {rid : Nat} {x : Rec} (h : heldFind held rid = some x) : x.id = rid := by
  induction held with
  | nil => simp [heldFind] at h
  | cons y ys ih =>
    simp only [heldFind] at h
    split at h
    · rename_i hy; cases h; exact hy
    · exact ih h

theorem heldFind_inc {held : List (Rec × Nat)} {rid : Nat} {x : Rec} (r : Rec)
    (h : heldFind held rid = some x) : heldFind (heldInc held r) rid = some x := by
  induction held with
  | nil => simp [heldFind] at h
  | cons p ps ih =>
    obtain ⟨y, n⟩ := p
    simp only [heldFind] at h
    simp only [heldInc]
    split
    · simp only [heldFind]; exact h
    · simp only [heldFind]
      split
      · rename_i he; simp only [he, if_true] at h; exact h
      · rename_i hne; simp only [hne, if_false] at h; exact ih h

theorem heldFind_dec_ne {held : List (Rec × Nat)} {rid : Nat} {d x : Rec} (hne : rid ≠ d.id)
    (h : heldFind held rid = some x) : heldFind (heldDec held d) rid = some x := by
  induction held with
  | nil => simp [heldFind] at h
  | cons p ps ih =>
    obtain ⟨y, n⟩ := p
    simp only [heldFind] at h
    simp only [heldDec]
    split
    · rename_i hy
      have hyr : ¬ y.id = rid := fun e => hne (by rw [← e, hy])
      simp only [hyr, if_false] at h
      split
      · exact h
      · simp only [heldFind, hyr, if_false]; exact h
    · simp only [heldFind]
      split
      · rename_i he; simp only [he, if_true] at h; exact h
      · rename_i hn2; simp only [hn2, if_false] at h; exact ih h

theorem heldCnt_inc (held : List (Rec × Nat)) (x r : Rec) :
    heldCnt (heldInc held x) r = heldCnt held r + if x = r then 1 else 0 := by
  induction held with
  | nil => simp [heldInc, heldCnt]
  | cons p ps ih =>
    obtain ⟨y, n⟩ := p
    simp only [heldInc]
    by_cases hy : y = x
    · subst hy
      simp only [if_true, heldCnt]
      split <;> rfl
    · simp only [hy, if_false, heldCnt, ih]
      split
      · rename_i h; subst h; simpa using fun e : x = y => hy e.symm
      · rfl

theorem heldCnt_inc_ge (held : List (Rec × Nat)) (x r : Rec) :
    heldCnt held r ≤ heldCnt (heldInc held x) r := by
  rw [heldCnt_inc]; omega

theorem heldCnt_inc_self (held : List (Rec × Nat)) (x : Rec) : 0 < heldCnt (heldInc held x) x := by
  rw [heldCnt_inc, if_pos rfl]; omega

theorem heldCnt_dec_ne {held : List (Rec × Nat)} {d r : Rec} (h : r ≠ d) :
    heldCnt (heldDec held d) r = heldCnt held r := by
  induction held with
  | nil => simp [heldDec, heldCnt]
  | cons p ps ih =>
    obtain ⟨y, n⟩ := p
    simp only [heldDec]
    split
    · rename_i hy
      have : ¬ y = r := fun e => h (by rw [← e, hy])
      split
      · simp [heldCnt, this]
      · simp [heldCnt, this]
    · simp only [heldCnt]; split
      · rfl
      · exact ih

theorem heldCnt_dec_gt {held : List (Rec × Nat)} {d : Rec} (h : 1 < heldCnt held d) :
    0 < heldCnt (heldDec held d) d := by
  induction held with
  | nil => simp [heldCnt] at h
  | cons p ps ih =>
    obtain ⟨y, n⟩ := p
    simp only [heldCnt] at h
    simp only [heldDec]
    split
    · rename_i hy
      simp only [hy, if_true] at h
      have : ¬ n ≤ 1 := by omega
      simp only [this, if_false, heldCnt, hy, if_true]; omega
    · rename_i hy
      simp only [hy, if_false] at h
      simp only [heldCnt, hy, if_false]
      exact ih h

end Foyer
