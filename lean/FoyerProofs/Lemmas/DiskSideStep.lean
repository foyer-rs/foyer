import FoyerProofs.Lemmas.DiskSide
/-
  `RB` = the disk-side invariant bundle (`RInv` for one hash, index entries under their own hash, the
  flusher able to run to quiescence); it is preserved by every primitive of the hybrid model and hence by
  every API call (`rb_stepCore`), including a graceful restart.  Nothing here looks at the memory tier:
  memory operations matter only through what they hand to the pipe.
-/
namespace Foyer.Hyb
open Foyer

section
variable {σ : Type} {P : Policy σ} (hc : HCfg) (h : Nat)

/-- see the header of this file -/
structure RB (s : HState σ) : Prop where
  r : RInv hc h s
  ih : IHx s
  q : QF s

variable {hc} {h}

theorem ihx_indexInsert_tomb {ix : List (Nat × Idx)} (ih : ∀ h' e, assocGet ix h' = some (.addr e) → e.hash = h')
    (a q : Nat) : ∀ h' e, assocGet (indexInsert ix a (.tomb q)) h' = some (.addr e) → e.hash = h' := by
  intro h' e he
  rw [assocGet_indexInsert] at he
  split at he
  · rename_i hh
    rcases (insOne_max (assocGet ix a) (.tomb q)).1 with h1 | h1 <;> rw [h1] at he
    · cases he
    · rw [hh]; exact ih a e he
  · exact ih h' e he

theorem ihx_submit {s : HState σ} (ih : IHx s) (x : Rec) : IHx (submit s x) := by
  rcases submit_cases s x with ⟨_, h⟩ | ⟨_, _, h⟩ | ⟨_, _, h⟩ <;> rw [h]
  · exact ih
  · exact ihx_indexInsert_tomb ih _ _
  · exact ih

theorem ihx_delete {s : HState σ} (ih : IHx s) (key : Nat) : IHx (delete hc s key) :=
  ihx_indexInsert_tomb ih _ _

theorem ihx_flush {s : HState σ} (ih : IHx s) (q : QF s) : IHx (flush hc s) := by
  intro h' e he
  rw [flush_of_qf_index hc q] at he
  unfold pview at he
  rcases lookupAfter_addr he with h1 | h1
  · exact ih h' e h1
  · exact h1.2

theorem ihx_lost {s : HState σ} (ih : IHx s) (h' : Nat) (e : DiskEnt) : IHx (lost s h' e) := by
  intro h2 e2 he
  have : assocGet (assocDel s.index h') h2 = some (.addr e2) := he
  rw [assocGet_del] at this
  split at this
  · cases this
  · exact ih h2 e2 this

theorem ihx_restarted (s : HState σ) (m : Cache σ) : IHx (restarted s m) := by
  intro h' e he
  have : assocGet (recover s.disk s.tombs) h' = some (.addr e) := he
  obtain ⟨e', he1, he2⟩ := recover_addr s.disk s.tombs _ this
  cases he1
  exact (recovery_picks_latest s.disk s.tombs h' e he2).2.1

theorem RB.ds {k : Nat} {s : HState σ} (b : RB hc (hc.mcfg.H k) s) : DS hc k s :=
  .of_qf b.q b.r.seqok

theorem rb_submit {s : HState σ} (b : RB hc h s) (x : Rec) : RB hc h (submit s x) :=
  ⟨rinv_submit b.r x, ihx_submit b.ih x, qf_submit b.q x⟩

theorem rb_delete {s : HState σ} (b : RB hc h s) (key : Nat) : RB hc h (delete hc s key) :=
  ⟨rinv_delete b.r key, ihx_delete b.ih key, qf_delete hc b.q key⟩

/-- `RB` reads neither `mem` nor `big` -/
theorem rb_setMem {s : HState σ} (b : RB hc h s) (m : Cache σ) : RB hc h { s with mem := m } :=
  ⟨rinv_congr b.r rfl rfl rfl rfl rfl, b.ih, ⟨b.q.hh, b.q.hg, b.q.hi, b.q.kq⟩⟩

theorem rb_setBig {s : HState σ} (b : RB hc h s) (big : List Nat) : RB hc h { s with big := big } :=
  ⟨rinv_congr b.r rfl rfl rfl rfl rfl, b.ih, ⟨b.q.hh, b.q.hg, b.q.hi, b.q.kq⟩⟩

theorem rb_memOp {s : HState σ} (b : RB hc h s) (op : Op) : RB hc h (memOp P hc s op).1 :=
  memOp_closed P hc (I := RB hc h) (fun _ r _ b => rb_submit b r) op (rb_setMem b _)

theorem rb_flush {s : HState σ} (b : RB hc h s) (ht : hc.tombLog = true) : RB hc h (flush hc s) :=
  ⟨rinv_flush b.r b.q ht, ihx_flush b.ih b.q, qf_flush hc b.q⟩

theorem rb_lost {s : HState σ} (b : RB hc h s) (hq : s.queue = []) (h' : Nat) (e : DiskEnt)
    (he : indexAddr s.index h' = some e) : RB hc h (lost s h' e) :=
  ⟨rinv_lost b.r b.ih hq h' e he, ihx_lost b.ih h' e, ⟨b.q.hh, b.q.hg, b.q.hi, b.q.kq⟩⟩

theorem rb_restarted {s : HState σ} (b : RB hc h s) (hq : s.queue = []) (m : Cache σ) : RB hc h (restarted s m) :=
  ⟨rinv_restarted b.r hq m, ihx_restarted s m, ⟨b.q.hh, b.q.hg, rfl, fun p hp => by cases hp⟩⟩


/-- API calls and environment steps during which no flush is held back -/
def quietOp : HOp → Prop
  | .hold => False
  | .unhold => False
  | .gate => False
  | .releaseAll => False
  | .releaseBatch => False
  | _ => True

theorem quietOp_isControl {op : HOp} (h : quietOp op) : op.isControl = false := by
  cases op <;> simp only [quietOp] at h <;> rfl

theorem rb_cleared {s : HState σ} (b : RB hc h s) (ht : hc.tombLog = true) :
    RB hc h ({ flush hc (clearQ s) with index := [], disk := [] } : HState σ) := by
  have q1 := qf_clearQ b.q
  have qf2 := qf_flush hc q1
  have hq2 := flush_of_qf_queue hc q1
  obtain ⟨_, htb⟩ := flush_disk_tombs (clearQ s) q1 ht
  have hseq2 : (flush hc (clearQ s)).seq = s.seq + 1 := flush_of_qf_seq hc q1
  -- index and device are empty: all that is left to show is that the logged tombstones are below the counter
  refine ⟨rinv_wipe ?_ hq2, fun h' e he => (by cases he), ⟨qf2.hh, qf2.hg, qf2.hi, qf2.kq⟩⟩
  intro q hq1
  rw [htb] at hq1
  simp only [clearQ] at hq1
  rw [tbsOf_append, ← List.append_assoc, List.mem_append] at hq1
  rw [hseq2]
  rcases hq1 with hq1 | hq1
  · have := b.r.B2 q hq1; omega
  · have : tbsOf [Sub.tomb 0 s.seq] = [(0, s.seq)] := rfl
    rw [this] at hq1
    simp only [List.mem_singleton, Prod.mk.injEq] at hq1
    omega

/-- **A graceful restart keeps the disk-side invariant and is invisible for the hash.** -/
theorem rb_reopened {s : HState σ} (b : RB hc h s) (ht : hc.tombLog = true) (m : Cache σ) :
    RB hc h (reopenTail hc s m) ∧
    ∀ e, pview hc (reopenTail hc s m) h = some (.addr e) ↔ pview hc s h = some (.addr e) := by
  have b' : RB hc h ({ s with held := false, gated := false } : HState σ) :=
    ⟨rinv_congr b.r rfl rfl rfl rfl rfl, b.ih, ⟨rfl, rfl, b.q.hi, b.q.kq⟩⟩
  have b2 := rb_flush b' ht
  have hq2 := flush_of_qf_queue hc b'.q
  rw [reopenTail_eq ht]
  refine ⟨rb_restarted b2 hq2 m, fun e => ?_⟩
  rw [pview_restarted b2.r hq2 m e, flush_of_qf_pview hc b'.q h]
  rfl

theorem rb_init (memcap : Nat) : RB hc h (init P hc memcap) where
  r := { seqok := batchLt_nil (seqLt_none _)
         B1 := fun d hd _ => by cases hd
         B2 := fun q hq => by cases hq
         R1 := fun e he => by cases he
         R2 := fun _ d hd _ => by cases hd }
  ih := fun h' e he => by cases he
  q := ⟨rfl, rfl, rfl, fun p hp => by cases hp⟩

end

section
variable {σ : Type} (P : Policy σ) (hc : HCfg) (h : Nat)

/-- **Every API call keeps the disk-side invariant** (tombstone log on; the call starts with an idle flusher). -/
theorem rb_stepCore {s : HState σ} (b : RB hc h s) (ht : hc.tombLog = true) (hq : s.queue = []) (op : HOp)
    (hop : quietOp op) : RB hc h (stepCore P hc s op).1 :=
  stepCore_closed P hc (I := RB hc h) (Pre := fun s => s.queue = [])
    { memOp := fun _ op _ b => rb_memOp b op
      submit := fun _ r _ b => rb_submit b r
      delete := fun _ key b => rb_delete b key
      big := fun _ big b => rb_setBig b big
      clear := fun _ b => rb_cleared b ht
      lose := fun _ h' e hq he b => rb_lost b hq h' e he
      reopen := fun _ _ b => (rb_reopened b ht _).1 } hq b op (quietOp_isControl hop)

theorem rb_step {s : HState σ} (b : RB hc h s) (ht : hc.tombLog = true) (hq : s.queue = []) (op : HOp)
    (hop : quietOp op) : RB hc h (step P hc s op).1 :=
  rb_flush (rb_stepCore P hc h b ht hq op hop) ht

end
end Foyer.Hyb
