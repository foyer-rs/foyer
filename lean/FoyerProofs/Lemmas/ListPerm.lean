/-
  "`l'` is `l` without one `a`" is written `l.Perm (a :: l')`; `h.append_right c` / `h.with_prefix c` carry such a
  fact about one list to the list with `c` appended / prepended.  Equations `entering ++ old ~ new ++ leaving`
  compose (`perm_seq`, `perm_par`).  Also: lookup by first component in a list of pairs, and injectivity on a list
  from `(l.map f).Nodup`.
-/
namespace Foyer

variable {α β : Type}

theorem _root_.List.Perm.with_prefix {b b' : List α} {a : α} (h : b.Perm (a :: b')) (c : List α) :
    (c ++ b).Perm (a :: (c ++ b')) := (h.append_left c).trans List.perm_middle

theorem perm_seq {a a' b b' b'' o o' : List α} (h : (a ++ b).Perm (b' ++ o)) (h' : (a' ++ b').Perm (b'' ++ o')) :
    ((a ++ a') ++ b).Perm (b'' ++ (o ++ o')) := by
  refine (List.perm_append_comm.append_right b).trans ?_
  rw [List.append_assoc]
  refine (h.append_left a').trans ?_
  rw [← List.append_assoc]
  refine (h'.append_right o).trans ?_
  rw [List.append_assoc]
  exact List.perm_append_comm.append_left _

theorem perm_par {a a' b b' c c' o o' : List α} (h : (a ++ b).Perm (c ++ o)) (h' : (a' ++ b').Perm (c' ++ o')) :
    ((a ++ a') ++ (b ++ b')).Perm ((c ++ c') ++ (o ++ o')) := by
  have swap : ∀ w x y z : List α, ((w ++ x) ++ (y ++ z)).Perm ((w ++ y) ++ (x ++ z)) := fun w x y z => by
    simpa only [List.append_assoc] using (List.perm_append_comm_assoc x y z).append_left w
  exact (swap ..).trans ((h.append h').trans (swap ..))

theorem perm_cons_filter (f : α → Nat) (l : List α) (a : α) (hn : (l.map f).Nodup) (ha : a ∈ l) :
    l.Perm (a :: l.filter (fun x => f x ≠ f a)) := by
  induction l with
  | nil => cases ha
  | cons y ys ih =>
    rw [List.map_cons, List.nodup_cons] at hn
    by_cases hy : f y = f a
    · have hya : y = a := by
        rcases List.mem_cons.mp ha with rfl | h
        · rfl
        · exact absurd (hy ▸ List.mem_map_of_mem h) hn.1
      subst hya
      rw [List.filter_cons_of_neg (by simp), List.filter_eq_self.mpr]
      intro x hx
      simpa using fun e : f x = f y => hn.1 (e ▸ List.mem_map_of_mem hx)
    · have hay : a ∈ ys := (List.mem_cons.mp ha).resolve_left fun e => hy (e ▸ rfl)
      rw [List.filter_cons_of_pos (by simpa using hy)]
      exact ((ih hn.2 hay).cons y).trans (List.Perm.swap a y _)

theorem perm_cons_eraseIdx (l : List α) (i : Nat) (a : α) (h : l[i]? = some a) : l.Perm (a :: l.eraseIdx i) := by
  obtain ⟨hi, rfl⟩ := List.getElem?_eq_some_iff.mp h
  rw [List.eraseIdx_eq_take_drop_succ]
  exact (List.perm_middle (l₁ := l.take i)).symm.trans (.of_eq (by simp)) |>.symm

theorem find?_key {f : α → Nat} {i : Nat} {l : List α} {a : α} (h : l.find? (fun x => f x = i) = some a) :
    a ∈ l ∧ f a = i :=
  ⟨List.mem_of_find?_eq_some h, by simpa using List.find?_some h⟩

/-- association lists: lookup by first component, as `Hyb.assocGet` and `Blk.idxAt` have it -/
theorem find?_fst_cons {γ : Type} (a : Nat × γ) (l : List (Nat × γ)) (k : Nat) :
    ((a :: l).find? (·.1 = k)).map (·.2) = if a.1 = k then some a.2 else (l.find? (·.1 = k)).map (·.2) := by
  by_cases h : a.1 = k <;> simp [h]

theorem mem_of_find?_fst {γ : Type} {l : List (Nat × γ)} {k : Nat} {v : γ}
    (h : (l.find? (·.1 = k)).map (·.2) = some v) : (k, v) ∈ l := by
  obtain ⟨a, hf, rfl⟩ := Option.map_eq_some_iff.mp h
  have hk : a.1 = k := by simpa using List.find?_some hf
  exact hk ▸ List.mem_of_find?_eq_some hf

theorem eq_of_map_eq {f : α → Nat} {l : List α} {x y : α} (hn : (l.map f).Nodup) (hx : x ∈ l) (hy : y ∈ l)
    (h : f x = f y) : x = y :=
  List.Pairwise.forall_of_forall_of_flip (R := fun a b => f a = f b → a = b) (fun _ _ _ => rfl)
    ((List.pairwise_map.1 hn).imp fun hne e => absurd e hne)
    ((List.pairwise_map.1 hn).imp fun hne e => absurd e.symm hne) hx hy h

theorem map_map_eq_map {p : α → β} {g : α → α} (h : ∀ e, p (g e) = p e) (l : List α) :
    (l.map g).map p = l.map p := by
  rw [List.map_map]; exact List.map_congr_left fun e _ => h e

end Foyer
