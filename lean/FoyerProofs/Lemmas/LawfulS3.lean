import FoyerModel.Policies.S3Fifo
import FoyerProofs.Lemmas.LawfulOfPerm
/-
  S3-FIFO is a lawful policy; its eviction loops terminate within their fuel (so `clear`, which is
  `while pop().is_some() {}`, really empties both queues).
-/
namespace Foyer

theorem s3EvictSmall_spec (thr : Nat) (small main : List S3Ent) (sw mw : Nat) :
    let res := s3EvictSmall thr small main sw mw
    (small ++ main).Perm (res.1.toList ++ (res.2.1 ++ res.2.2.1)) ∧ (res.1 = none → res.2.1 = []) := by
  induction small generalizing main sw mw with
  | nil => exact ⟨.refl _, fun _ => rfl⟩
  | cons e rest ih =>
    simp only [s3EvictSmall]
    split
    · exact ⟨((List.perm_append_singleton e main).with_prefix rest).symm.trans (ih ..).1, (ih ..).2⟩
    · exact ⟨.refl _, fun h => nomatch h⟩

theorem freqSum_append (a b : List S3Ent) : freqSum (a ++ b) = freqSum a + freqSum b := by
  induction a with
  | nil => simp [freqSum]
  | cons x xs ih => simp [freqSum, ih]; omega

/-- Every rotation of `main` lowers `freqSum`, so fuel `freqSum main + main.length + 1` suffices. -/
theorem s3EvictMain_spec (fuel : Nat) (main : List S3Ent) (mw : Nat) :
    let res := s3EvictMain fuel main mw
    (main.map (·.r)).Perm ((res.1.toList ++ res.2.1).map (·.r)) ∧
    (freqSum main + main.length < fuel → res.1 = none → main = []) := by
  induction fuel generalizing main mw with
  | zero => exact ⟨.refl _, fun h => absurd h (Nat.not_lt_zero _)⟩
  | succ f ih =>
    cases main with
    | nil => exact ⟨.refl _, fun _ _ => rfl⟩
    | cons e rest =>
      simp only [s3EvictMain]
      split
      · have := ih (rest ++ [{ e with freq := e.freq - 1 }]) mw
        rw [List.map_append] at this
        refine ⟨(List.perm_append_singleton e.r _).symm.trans this.1, fun hf hn => ?_⟩
        have := this.2 (by simp only [freqSum_append, freqSum, List.length_append, List.length_cons,
          List.length_nil] at hf ⊢; omega) hn
        simp at this
      · exact ⟨.refl _, fun _ h => absurd h (Option.some_ne_none e)⟩

/-- `S3.evict` after the `evict_small` stage: `evict_main`, else `evict_small_force`.  It repeats that part of
the model's `S3.evict` word for word: `s3_evict_spec` ends by definitional equality with it. -/
def S3.evictMainOrForce (s : S3) : Option (Rec × S3) :=
  match s3EvictMain (freqSum s.main + s.main.length + 1) s.main s.mainW with
  | (some e, main, mw) => some (e.r, { s with main, mainW := mw })
  | (none, main, mw) =>
    match s.small with
    | e :: rest => some (e.r, { s with main, mainW := mw, small := rest, smallW := s.smallW - e.r.weight })
    | [] => none

/-- `out` is an eviction from `s`: the victim leaves `small ++ main`; there is none only if both are empty. -/
def S3.EvictsFrom (s : S3) (out : Option (Rec × S3)) : Prop :=
  (∀ r s', out = some (r, s') → ((s.small ++ s.main).map (·.r)).Perm (r :: (s'.small ++ s'.main).map (·.r))) ∧
  (out = none → s.small = [] ∧ s.main = [])

theorem s3_evictMainOrForce_spec (s : S3) : s.EvictsFrom s.evictMainOrForce := by
  unfold S3.evictMainOrForce
  have hm := s3EvictMain_spec (freqSum s.main + s.main.length + 1) s.main s.mainW
  generalize s3EvictMain (freqSum s.main + s.main.length + 1) s.main s.mainW = res at hm
  obtain ⟨_ | e, mn, mw⟩ := res
  · have hmn : s.main = [] := hm.2 (Nat.lt_succ_self _) rfl
    have : mn = [] := List.map_eq_nil_iff.mp (List.perm_nil.mp (hmn ▸ hm.1).symm)
    subst this
    cases hs : s.small with
    | nil => exact ⟨fun _ _ h => (nomatch h), fun _ => ⟨hs, hmn⟩⟩
    | cons e rest =>
      refine ⟨fun r s' h => ?_, fun h => nomatch h⟩
      cases h
      rw [hmn, hs]
      exact .refl _
  · refine ⟨fun r s' h => ?_, fun h => nomatch h⟩
    cases h
    rw [List.map_append]
    exact (hm.1.with_prefix _).trans (List.map_append .. ▸ .refl _)

theorem s3_evict_spec (s : S3) : s.EvictsFrom s.evict := by
  unfold S3.evict
  split
  · have hs := s3EvictSmall_spec s.threshold s.small s.main s.smallW s.mainW
    generalize s3EvictSmall s.threshold s.small s.main s.smallW s.mainW = res at hs
    obtain ⟨_ | e, sm, mn, sw, mw⟩ := res
    · have st := s3_evictMainOrForce_spec { s with small := sm, main := mn, smallW := sw, mainW := mw }
      refine ⟨fun r s' h => (hs.1.map _).trans (st.1 r s' h), fun h => ?_⟩
      obtain ⟨rfl, rfl⟩ : sm = [] ∧ mn = [] := st.2 h
      exact List.append_eq_nil_iff.mp hs.1.eq_nil
    · refine ⟨fun r s' h => ?_, fun h => nomatch h⟩
      cases h
      exact hs.1.map _
  · exact s3_evictMainOrForce_spec s

theorem s3_clear_go (fuel : Nat) (s : S3) (h : (s.small ++ s.main).length < fuel) :
    (S3.clearGo fuel s).small ++ (S3.clearGo fuel s).main = [] := by
  induction fuel generalizing s with
  | zero => omega
  | succ f ih =>
    simp only [S3.clearGo]
    split
    · rename_i he; exact List.append_eq_nil_iff.mpr ((s3_evict_spec s).2 he)
    · rename_i r s' he
      have hl := ((s3_evict_spec s).1 r s' he).length_eq
      simp only [List.length_cons, List.length_map] at hl
      exact ih s' (by omega)

theorem s3_permLaws (sf gf : Nat → Nat) (t : Nat) : PermLaws (s3Policy sf gf t) (fun _ => True) where
  init_I _ := trivial
  init_members _ := rfl
  push s r _ _ _ := by
    refine ⟨trivial, ?_⟩
    dsimp only [s3Policy]
    split
    · exact ((List.perm_append_singleton (⟨r, 0⟩ : S3Ent) s.main).with_prefix s.small).map S3Ent.r
    · exact ((List.perm_append_singleton (⟨r, 0⟩ : S3Ent) s.small).append_right s.main).map S3Ent.r
  pop s r s' _ _ hp := ⟨trivial, (s3_evict_spec s).1 r s' hp⟩
  remove s r _ hn hr := by
    refine ⟨trivial, ?_⟩
    have hn' : idsNodup (s.small.map (·.r) ++ s.main.map (·.r)) := List.map_append .. ▸ hn
    obtain ⟨hns, hnm, _⟩ := idsNodup_append.mp hn'
    dsimp only [s3Policy]
    split
    · rename_i hany
      obtain ⟨e, he, hid⟩ := List.any_eq_true.mp hany
      cases eq_of_id_eq hn (List.mem_map_of_mem (List.mem_append_right _ he)) hr (by simpa using hid)
      exact ((perm_eraseBy S3Ent.r hnm he rfl).with_prefix s.small).map S3Ent.r
    · rename_i hany
      obtain ⟨e, he, rfl⟩ := List.mem_map.mp hr
      have hes := (List.mem_append.mp he).resolve_right fun h => hany (List.any_eq_true.mpr ⟨e, h, by simp⟩)
      exact ((perm_eraseBy S3Ent.r hns hes rfl).append_right s.main).map S3Ent.r
  acquire s r _ _ := by
    refine ⟨trivial, ?_⟩
    dsimp only [s3Policy]
    have keep : ∀ e : S3Ent, (if e.r.id = r.id then { e with freq := min 3 (e.freq + 1) } else e).r = e.r :=
      fun e => by split <;> rfl
    rw [List.map_append, map_map_eq_map keep, map_map_eq_map keep, ← List.map_append]
  release _ _ _ _ := ⟨trivial, List.Perm.refl _⟩
  update _ _ _ _ := ⟨trivial, List.Perm.refl _⟩
  clear s _ _ := ⟨trivial, congrArg (List.map S3Ent.r) (s3_clear_go _ s (by simp))⟩

end Foyer
