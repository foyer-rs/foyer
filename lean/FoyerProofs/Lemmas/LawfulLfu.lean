import FoyerModel.Policies.Lfu
import FoyerProofs.Lemmas.LawfulOfPerm
/-
  w-TinyLFU is a lawful policy (for any sketch configuration / bucket function).
-/
namespace Foyer

theorem lfuProtectedOverflow_eq : lfuProtectedOverflow = lfuWindowOverflow := by
  funext cap t
  induction t with
  | nil => rfl
  | cons r rs ih => funext p tw pw; simp only [lfuProtectedOverflow, lfuWindowOverflow, ih]

theorem lfuWindowOverflow_perm (cap : Nat) (w p : List Rec) (ww pw : Nat) :
    ((lfuWindowOverflow cap w p ww pw).1 ++ (lfuWindowOverflow cap w p ww pw).2.1).Perm (w ++ p) := by
  induction w generalizing p ww pw with
  | nil => exact .refl _
  | cons r rs ih =>
    simp only [lfuWindowOverflow]
    split
    · exact (ih ..).trans ((List.perm_append_singleton r p).with_prefix rs)
    · exact .refl _

theorem touchFreq_eq (k : SketchCfg) (s : Lfu) (h : Nat) :
    ∃ c n, Lfu.touchFreq k s h = { s with counts := c, step := n } := by
  simp only [Lfu.touchFreq]
  split <;> exact ⟨_, _, rfl⟩

theorem lfu_permLaws (wf pf : Nat → Nat) (k : SketchCfg) : PermLaws (lfuPolicy wf pf k) (fun _ => True) where
  init_I _ := trivial
  init_members _ := rfl
  push s r _ _ _ := by
    refine ⟨trivial, ?_⟩
    dsimp only [lfuPolicy]
    obtain ⟨c, n, h⟩ := touchFreq_eq k { s with ww := s.ww + r.weight } r.hash
    rw [h]
    exact ((lfuWindowOverflow_perm ..).trans ((List.perm_append_singleton r s.window).append_right _)).append_right s.prot
  pop s r s' _ _ hp := by
    refine ⟨trivial, ?_⟩
    dsimp only [lfuPolicy] at hp
    split at hp
    · split at hp
      · cases hp
      · rename_i ht
        cases hp
        exact (List.Perm.of_eq ht).with_prefix (s.window ++ s.probation)
    · rename_i hpb
      cases hp
      exact ((List.Perm.of_eq hpb).with_prefix s.window).append_right s.prot
    · rename_i hw _
      cases hp
      exact ((List.Perm.of_eq hw).append_right s.probation).append_right s.prot
    · rename_i hw hpb
      split at hp
      · cases hp
        exact ((List.Perm.of_eq hw).append_right s.probation).append_right s.prot
      · cases hp
        exact ((List.Perm.of_eq hpb).with_prefix s.window).append_right s.prot
  remove s r _ hn hr := by
    refine ⟨trivial, ?_⟩
    obtain ⟨hnw, hnp, hnt⟩ := idsNodup_parts hn
    have found : ∀ {l}, (∀ x ∈ l, x ∈ (lfuPolicy wf pf k).members s) → hasId r.id l = true → r ∈ l := fun hs h =>
      have ⟨x, hx, hid⟩ := hasId_iff.mp h
      eq_of_id_eq hn (hs x hx) hr hid ▸ hx
    dsimp only [lfuPolicy]
    split
    · rename_i h
      exact ((perm_eraseId hnw (found (fun x hx => List.mem_append_left _ (List.mem_append_left _ hx)) h)).append_right _).append_right _
    · rename_i hw
      split
      · rename_i h
        exact ((perm_eraseId hnp (found (fun x hx => List.mem_append_left _ (List.mem_append_right _ hx)) h)).with_prefix _).append_right _
      · rename_i hp
        have hrt : r ∈ s.prot := by
          rcases List.mem_append.mp hr with h | h
          · rcases List.mem_append.mp h with h | h
            · exact absurd (hasId_iff.mpr ⟨r, h, rfl⟩) hw
            · exact absurd (hasId_iff.mpr ⟨r, h, rfl⟩) hp
          · exact h
        exact (perm_eraseId hnt hrt).with_prefix _
  acquire s r _ hn := by
    refine ⟨trivial, ?_⟩
    obtain ⟨hnw, hnp, hnt⟩ := idsNodup_parts hn
    dsimp only [lfuPolicy]
    obtain ⟨c, n, h⟩ := touchFreq_eq k s r.hash
    rw [h]
    split
    · rename_i x hf
      exact (((List.perm_append_singleton x _).trans (perm_findId hnw hf).symm).append_right _).append_right _
    · split
      · rename_i x hf
        rw [lfuProtectedOverflow_eq, List.append_assoc, List.append_assoc]
        refine .append_left _ (List.perm_append_comm.trans ((lfuWindowOverflow_perm ..).trans ?_))
        exact ((List.perm_append_singleton x s.prot).append_right _).trans
          ((List.perm_append_comm.cons x).trans ((perm_findId hnp hf).append_right s.prot).symm)
      · split
        · rename_i x hf
          exact ((List.perm_append_singleton x _).trans (perm_findId hnt hf).symm).append_left _
        · exact .refl _
  release _ _ _ _ := ⟨trivial, List.Perm.refl _⟩
  update _ _ _ _ := ⟨trivial, List.Perm.refl _⟩
  clear _ _ _ := ⟨trivial, rfl⟩

end Foyer
