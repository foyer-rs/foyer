import FoyerProofs.Lemmas.MemStep
import FoyerProofs.Lemmas.HandleTable
/-
  `mapShards` in closed form, and `Cache.step` for single operations: what `get`, `remove`, `ins`, `clear`,
  `resize`, `flush` return and do to the shards (`step_get_hit`, `step_ins`, …), and what any step does to the
  handle table (`step_held`).
-/
namespace Foyer

variable {σ : Type} {P : Policy σ} {Ok : σ → Prop}

theorem setAt_eq_set {α : Type} (l : List α) (i : Nat) (a : α) : setAt l i a = l.set i a := by
  induction l generalizing i with
  | nil => rfl
  | cons x xs ih => cases i <;> simp [setAt, ih]

theorem mapShards_eq (f : Nat → Shard σ → Shard σ × List (Reason × Rec) × Bool) :
    ∀ (l : List (Shard σ)) (i0 : Nat), mapShards f i0 l =
      ((l.zipIdx i0).map fun p => (f p.2 p.1).1, (l.zipIdx i0).flatMap fun p => (f p.2 p.1).2.1,
       (l.zipIdx i0).any fun p => (f p.2 p.1).2.2) := by
  intro l
  induction l with
  | nil => intro i0; rfl
  | cons s ss ih =>
    intro i0
    simp only [mapShards, ih, List.zipIdx_cons, List.map_cons, List.flatMap_cons, List.any_cons]

theorem mapShards_getElem? (f : Nat → Shard σ → Shard σ × List (Reason × Rec) × Bool) :
    ∀ (l : List (Shard σ)) (i0 j : Nat),
      (mapShards f i0 l).1[j]? = (l[j]?).map (fun s => (f (i0 + j) s).1) := by
  intro l i0 j
  rw [mapShards_eq, List.getElem?_map, List.getElem?_zipIdx, Option.map_map]
  rfl

theorem mapShards_length (f : Nat → Shard σ → Shard σ × List (Reason × Rec) × Bool) :
    ∀ (l : List (Shard σ)) (i0 : Nat), (mapShards f i0 l).1.length = l.length := by
  intro l i0
  rw [mapShards_eq, List.length_map, List.length_zipIdx]

theorem mem_leaves_mapShards {f : Nat → Shard σ → Shard σ × List (Reason × Rec) × Bool} {l : List (Shard σ)} {i0 : Nat}
    {x : Reason × Rec} (h : x ∈ (mapShards f i0 l).2.1) :
    ∃ (j : Nat) (s : Shard σ), l[j]? = some s ∧ x ∈ (f (i0 + j) s).2.1 := by
  rw [mapShards_eq] at h
  obtain ⟨⟨s, i⟩, hp, hx⟩ := List.mem_flatMap.mp h
  obtain ⟨hi, hs⟩ := List.mem_zipIdx_iff_le_and_getElem?_sub.mp hp
  exact ⟨i - i0, s, hs, by rw [Nat.add_sub_cancel' hi]; exact hx⟩

theorem mapShards_no_panic (f : Nat → Shard σ → Shard σ × List (Reason × Rec) × Bool) :
    ∀ (l : List (Shard σ)) (i0 : Nat), (∀ j s, l[j]? = some s → (f (i0 + j) s).2.2 = false) →
      (mapShards f i0 l).2.2 = false := by
  intro l i0 h
  rw [mapShards_eq, List.any_eq_false]
  rintro ⟨s, i⟩ hp
  obtain ⟨hi, hs⟩ := List.mem_zipIdx_iff_le_and_getElem?_sub.mp hp
  have := h (i - i0) s hs
  rw [Nat.add_sub_cancel' hi] at this
  simp [this]

theorem mapShards_stay {f : Nat → Shard σ → Shard σ × List (Reason × Rec) × Bool} {l : List (Shard σ)} {i0 : Nat}
    (h : ∀ j t, i0 ≤ j → f j t = (t, [], false)) : mapShards f i0 l = (l, [], false) := by
  induction l generalizing i0 with
  | nil => rfl
  | cons t ts ih =>
    simp only [mapShards, h i0 t (Nat.le_refl _), ih fun j t hj => h j t (Nat.le_of_succ_le hj)]
    rfl

theorem mapShards_one (res : Shard σ × List (Reason × Rec) × Bool) {l : List (Shard σ)} {i i0 : Nat}
    (h : i < l.length) :
    mapShards (fun j t => if j = i0 + i then res else (t, [], false)) i0 l = (setAt l i res.1, res.2.1, res.2.2) := by
  induction l generalizing i i0 with
  | nil => simp at h
  | cons t ts ih =>
    cases i with
    | zero =>
      simp only [mapShards, Nat.add_zero, if_true, setAt]
      rw [mapShards_stay (l := ts) (i0 := i0 + 1) fun j t hj => by simp; omega]
      simp
    | succ i =>
      have := ih (i := i) (i0 := i0 + 1) (by simpa using h)
      rw [show i0 + 1 + i = i0 + (i + 1) by omega] at this
      simp only [mapShards, this, setAt]
      simp

theorem leftRecs_append (a b : List (Reason × Rec)) : leftRecs (a ++ b) = leftRecs a ++ leftRecs b := by
  simp [leftRecs]

theorem leftRecs_map_pair (e : Reason) (vs : List Rec) (hre : ∀ v ∈ vs, v.phantom = false) :
    leftRecs (vs.map fun v => (e, v)) = vs := by
  simp only [leftRecs, List.map_map, Function.comp_def, List.map_id']
  exact List.filter_eq_self.mpr fun v hv => by simp [hre v hv]

theorem mem_leftRecs {l : List (Reason × Rec)} {r : Rec} : r ∈ leftRecs l ↔ r.phantom = false ∧ ∃ e, (e, r) ∈ l := by
  simp only [leftRecs, List.mem_filter, List.mem_map, Bool.not_eq_eq_eq_not, Bool.not_true]
  constructor
  · rintro ⟨⟨x, hx, rfl⟩, hp⟩
    exact ⟨hp, x.1, hx⟩
  · rintro ⟨hp, e, he⟩
    exact ⟨⟨(e, r), he, rfl⟩, hp⟩

theorem mem_map_pair {e e' : Reason} {vs : List Rec} {r : Rec} :
    (e', r) ∈ vs.map (fun v => (e, v)) ↔ e' = e ∧ r ∈ vs := by
  simp only [List.mem_map, Prod.mk.injEq]
  exact ⟨fun ⟨_, hv, he, hr⟩ => ⟨he.symm, hr ▸ hv⟩, fun ⟨he, h⟩ => ⟨r, h, he.symm, rfl⟩⟩

theorem mem_evictedOf_iff {l : List (Reason × Rec)} {r : Rec} : r ∈ evictedOf l ↔ (Reason.evict, r) ∈ l := by
  unfold evictedOf
  simp only [List.mem_map, List.mem_filter, decide_eq_true_eq]
  constructor
  · rintro ⟨x, ⟨hx, he⟩, hr⟩
    have : x = (Reason.evict, r) := by cases x; simp_all
    rw [← this]; exact hx
  · intro h
    exact ⟨(Reason.evict, r), ⟨h, rfl⟩, rfl⟩

theorem evictedOf_eq_nil {l : List (Reason × Rec)} (h : ∀ x ∈ l, x.1 ≠ Reason.evict) : evictedOf l = [] := by
  simp only [evictedOf, List.map_eq_nil_iff, List.filter_eq_nil_iff]
  exact fun x hx => by simpa using h x hx

/-- What a `get` / `remove` of `key` that finds `r` does: `touched s` is what becomes of `r`'s shard, `lv` what is
reported. -/
structure StepHit (P : Policy σ) (cfg : Cfg) (c : Cache σ) (op : Op) (key : Nat) (r : Rec)
    (touched : Shard σ → Shard σ) (lv : List (Reason × Rec)) : Prop where
  ret : (Cache.step P cfg c op).2.ret = .handle r
  held : (Cache.step P cfg c op).1.held = heldInc c.held r
  leaves : (Cache.step P cfg c op).2.leaves = lv
  piped : (Cache.step P cfg c op).2.piped = []
  shards : ∃ s, c.shards[cfg.shardOf (cfg.H key)]? = some s ∧ findKey key s.index = some r ∧
    (Cache.step P cfg c op).1.shards = setAt c.shards (cfg.shardOf (cfg.H key)) (touched s)

/-- A `get` / `remove` that finds nothing changes nothing. -/
structure StepMiss (P : Policy σ) (cfg : Cfg) (c : Cache σ) (op : Op) : Prop where
  state : (Cache.step P cfg c op).1 = c
  ret : (Cache.step P cfg c op).2.ret = .miss ∨ (Cache.step P cfg c op).2.ret = .bad

theorem step_get_hit (P : Policy σ) {cfg : Cfg} {c : Cache σ} {key : Nat} {r : Rec}
    (h : Cache.lookup cfg c key = some r) :
    StepHit P cfg c (.get key) key r (fun s => { s with ev := P.acquire s.ev r }) [] := by
  simp only [Cache.lookup] at h
  cases hs : c.shards[cfg.shardOf (cfg.H key)]? with
  | none => rw [hs] at h; cases h
  | some s =>
    rw [hs] at h
    exact { ret := by simp [Cache.step, hs, h]
            held := by simp [Cache.step, hs, h]
            leaves := by simp [Cache.step, hs, h]
            piped := by simp [Cache.step, hs, h]
            shards := by simp [Cache.step, hs, h] }

theorem step_get_miss (P : Policy σ) {cfg : Cfg} {c : Cache σ} {key : Nat} (h : Cache.lookup cfg c key = none) :
    StepMiss P cfg c (.get key) := by
  simp only [Cache.lookup] at h
  cases hs : c.shards[cfg.shardOf (cfg.H key)]? with
  | none => exact { state := by simp [Cache.step, hs], ret := by simp [Cache.step, hs] }
  | some s =>
    rw [hs] at h
    exact { state := by simp [Cache.step, hs, h], ret := by simp [Cache.step, hs, h] }

theorem step_remove_hit (P : Policy σ) {cfg : Cfg} {c : Cache σ} {key : Nat} {r : Rec}
    (h : Cache.lookup cfg c key = some r) :
    StepHit P cfg c (.remove key) key r (fun s => Shard.unlink P s r) [(.remove, r)] := by
  simp only [Cache.lookup] at h
  cases hs : c.shards[cfg.shardOf (cfg.H key)]? with
  | none => rw [hs] at h; cases h
  | some s =>
    rw [hs] at h
    exact { ret := by simp [Cache.step, hs, h]
            held := by simp [Cache.step, hs, h]
            leaves := by simp [Cache.step, hs, h]
            piped := by simp [Cache.step, hs, h]
            shards := by simp [Cache.step, hs, h] }

theorem step_remove_miss (P : Policy σ) {cfg : Cfg} {c : Cache σ} {key : Nat} (h : Cache.lookup cfg c key = none) :
    StepMiss P cfg c (.remove key) := by
  simp only [Cache.lookup] at h
  cases hs : c.shards[cfg.shardOf (cfg.H key)]? with
  | none => exact { state := by simp [Cache.step, hs], ret := by simp [Cache.step, hs] }
  | some s =>
    rw [hs] at h
    exact { state := by simp [Cache.step, hs, h], ret := by simp [Cache.step, hs, h] }

theorem step_get_piped (P : Policy σ) (cfg : Cfg) (c : Cache σ) (key : Nat) :
    (Cache.step P cfg c (.get key)).2.piped = [] := by
  simp only [Cache.step]
  split
  · rfl
  · split <;> rfl

theorem step_remove_piped (P : Policy σ) (cfg : Cfg) (c : Cache σ) (key : Nat) :
    (Cache.step P cfg c (.remove key)).2.piped = [] := by
  simp only [Cache.step]
  split
  · rfl
  · split <;> rfl

theorem step_clear_shards (P : Policy σ) (cfg : Cfg) (c : Cache σ) :
    (Cache.step P cfg c .clear).1.shards =
      c.shards.map fun s => { s with index := [], ev := P.clear s.ev, usage := 0, entries := 0 } := by
  simp only [Cache.step, mapShards_eq]
  conv => rhs; rw [← List.zipIdx_map_fst 0 c.shards, List.map_map]
  rfl

theorem step_resize_getElem? (P : Policy σ) (cfg : Cfg) (c : Cache σ) (n i : Nat) :
    (Cache.step P cfg c (.resize n)).1.shards[i]? = (c.shards[i]?).map fun s =>
      (Shard.evict P { s with ev := P.update s.ev (shardCapacityFor n c.shards.length i),
                              cap := shardCapacityFor n c.shards.length i } (shardCapacityFor n c.shards.length i)).1 := by
  simp only [Cache.step, mapShards_getElem?, Nat.zero_add]

theorem step_flush_getElem? (P : Policy σ) (cfg : Cfg) (c : Cache σ) (i : Nat) :
    (Cache.step P cfg c .flush).1.shards[i]? = (c.shards[i]?).map fun s => (Shard.evict P s 0).1 := by
  simp only [Cache.step, mapShards_getElem?]

theorem step_ins (P : Policy σ) {cfg : Cfg} {c : Cache σ} {key ver w : Nat} {h : Hint} {ph : Bool} {loc : Loc} {age : Age}
    {s : Shard σ} (hs : c.shards[cfg.shardOf (cfg.H key)]? = some s) {r : Rec}
    (hr : r = { id := c.nextId, key, hash := cfg.H key, ver, weight := w, hint := h, phantom := ph, loc, age }) :
    Cache.step P cfg c (.ins key ver w h ph loc age) =
      ({ shards := setAt c.shards (cfg.shardOf (cfg.H key)) (Shard.emplace P s r).1, nextId := c.nextId + 1,
         held := heldInc c.held r },
       { ret := if (Shard.emplace P s r).2.2 then .panic else .handle r, leaves := (Shard.emplace P s r).2.1,
         piped := evictedOf (Shard.emplace P s r).2.1 }) := by
  subst hr
  simp only [Cache.step, hs]

theorem ins_handle_eq {P : Policy σ} {cfg : Cfg} {c : Cache σ} {key ver w : Nat} {h : Hint} {ph : Bool} {loc : Loc} {age : Age}
    {r : Rec} (hr : (Cache.step P cfg c (.ins key ver w h ph loc age)).2.ret = .handle r) :
    r = { id := c.nextId, key, hash := cfg.H key, ver, weight := w, hint := h, phantom := ph, loc, age } ∧
    (∃ s, c.shards[cfg.shardOf (cfg.H key)]? = some s) ∧
    (Cache.step P cfg c (.ins key ver w h ph loc age)).1.held = heldInc c.held r := by
  cases hs : c.shards[cfg.shardOf (cfg.H key)]? with
  | none => simp [Cache.step, hs] at hr
  | some s =>
    rw [step_ins P hs rfl] at hr ⊢
    split at hr
    · cases hr
    · cases hr; exact ⟨rfl, ⟨s, rfl⟩, rfl⟩

theorem ins_of_admitted {cfg : Cfg} {c : Cache σ} {op : Op} {x : Rec} (h : x ∈ admittedOf op (Cache.step P cfg c op).2) :
    ∃ key ver w hint loc age, op = .ins key ver w hint false loc age ∧
      x = { id := c.nextId, key, hash := cfg.H key, ver, weight := w, hint, phantom := false, loc, age } := by
  cases op with
  | ins key ver w hint p loc age =>
    simp only [admittedOf] at h
    split at h
    · rename_i r hr
      obtain ⟨hx, _⟩ := ins_handle_eq hr
      split at h
      · cases h
      · rename_i hph
        rw [List.mem_singleton.mp h]
        have hp : p = false := by rw [hx] at hph; simpa using hph
        subst hp
        exact ⟨key, ver, w, hint, loc, age, rfl, hx⟩
    · cases h
  | _ => simp [admittedOf] at h

theorem step_held (P : Policy σ) (cfg : Cfg) (c : Cache σ) (op : Op) :
    (∃ rid x, op = .drop rid ∧ heldFind c.held rid = some x ∧ (Cache.step P cfg c op).1.held = heldDec c.held x) ∨
    ((∀ rid, op = .drop rid → heldFind c.held rid = none) ∧
     ((Cache.step P cfg c op).1.held = c.held ∨ ∃ x, (Cache.step P cfg c op).1.held = heldInc c.held x)) := by
  cases op with
  | drop rid =>
    cases hf : heldFind c.held rid with
    | none => exact Or.inr ⟨fun _ e => by cases e; exact hf, Or.inl (by simp [Cache.step, hf])⟩
    | some x =>
      refine Or.inl ⟨rid, x, rfl, hf, ?_⟩
      simp only [Cache.step, hf]
      split
      · split
        · rfl
        · split <;> rfl
      · rfl
  | get key =>
    refine Or.inr ⟨(fun _ e => nomatch e), ?_⟩
    cases hl : Cache.lookup cfg c key with
    | none => exact Or.inl (congrArg Cache.held (step_get_miss P hl).state)
    | some r => exact Or.inr ⟨r, (step_get_hit P hl).held⟩
  | ins key ver w h p l a =>
    refine Or.inr ⟨(fun _ e => nomatch e), ?_⟩
    simp only [Cache.step]
    split
    · exact Or.inl rfl
    · exact Or.inr ⟨_, rfl⟩
  | remove key =>
    refine Or.inr ⟨(fun _ e => nomatch e), ?_⟩
    cases hl : Cache.lookup cfg c key with
    | none => exact Or.inl (congrArg Cache.held (step_remove_miss P hl).state)
    | some r => exact Or.inr ⟨r, (step_remove_hit P hl).held⟩
  | clone rid =>
    refine Or.inr ⟨(fun _ e => nomatch e), ?_⟩
    simp only [Cache.step]
    split
    · exact Or.inl rfl
    · exact Or.inr ⟨_, rfl⟩
  | touch key =>
    refine Or.inr ⟨(fun _ e => nomatch e), Or.inl ?_⟩
    simp only [Cache.step]
    split
    · rfl
    · split <;> rfl
  | contains key =>
    refine Or.inr ⟨(fun _ e => nomatch e), Or.inl ?_⟩
    simp only [Cache.step]
    split <;> rfl
  | clear => exact Or.inr ⟨(fun _ e => nomatch e), Or.inl rfl⟩
  | resize cap => exact Or.inr ⟨(fun _ e => nomatch e), Or.inl rfl⟩
  | evictAll => exact Or.inr ⟨(fun _ e => nomatch e), Or.inl rfl⟩
  | flush => exact Or.inr ⟨(fun _ e => nomatch e), Or.inl rfl⟩

end Foyer
