import FoyerProofs.Lemmas.Protect
/-
  "Nothing leaks": every protected (pinned) record has an outstanding handle.  Generic in the
  policy, from the converse protection laws (`Unprotects`).
-/
namespace Foyer

variable {σ : Type}

structure Unprotects (P : Policy σ) (Ok : σ → Prop) (prot : σ → List Rec) : Prop where
  init : ∀ cap, prot (P.init cap) = []
  acquire_only : ∀ s x, Ok s → ∀ r ∈ prot (P.acquire s x), r ∈ prot s ∨ r.id = x.id
  release_removes : ∀ s x, Ok s → ∀ r ∈ prot (P.release s x), r ∈ prot s ∧ r.id ≠ x.id
  remove_sub : ∀ s x, Ok s → x ∈ P.members s → ∀ r ∈ prot (P.remove s x), r ∈ prot s ∧ r.id ≠ x.id
  clear : ∀ s, Ok s → prot (P.clear s) = []

variable {P : Policy σ} {Ok : σ → Prop} {prot : σ → List Rec}

/-- Every protected record has an outstanding handle. -/
def HeldInv (prot : σ → List Rec) (c : Cache σ) : Prop :=
  ∀ (i : Nat) (s : Shard σ), c.shards[i]? = some s → ∀ r ∈ prot s.ev, 0 < heldCnt c.held r

theorem heldInv_step (L : Lawful P Ok) (H : Protects P Ok prot) (U : Unprotects P Ok prot) {cfg : Cfg}
    {c : Cache σ} (hc : CacheInv P Ok cfg c) (hh : HeldInv prot c) (op : Op) :
    HeldInv prot (Cache.step P cfg c op).1 := by
  -- A drop lowers the count of one record: it stays positive, or the move releases that record in its own
  -- shard.  Every other step keeps the counts (`hmono`), and the protected set of a shard grows by the
  -- acquired record only, whose count the same step has raised or found positive.
  obtain ⟨F, A, sh⟩ := step_shape P cfg c op
  intro j t' ht' r hr
  obtain ⟨s, hs, mv, rfl⟩ := sh.of_getElem? ht'
  have hsi := hc.shard j s hs
  generalize A j = adm, F j s = res at mv hr
  have unlinked : ∀ {t : Shard σ} {old : Rec}, ShardInv P Ok t → old ∈ t.index →
      r ∈ prot (Shard.unlink P t old).ev → r ∈ prot t.ev := fun ht ho h => by
    rw [unlink_eq ht ho] at h; exact (U.remove_sub _ _ ht.ok ((ht.mem_iff _).mpr ho) r h).1
  rcases step_held P cfg c op with ⟨rid, x, rfl, hf, hheld⟩ | ⟨hnd, hinc⟩
  · rw [hheld]
    have other : r ∈ prot s.ev → r ≠ x → 0 < heldCnt (heldDec c.held x) r := fun h hne => by
      rw [heldCnt_dec_ne hne]; exact hh j s hs r h
    cases mv with
    | stay _ hu =>
      by_cases hne : r = x
      · by_cases hle : heldCnt c.held x ≤ 1
        · -- the last handle of a record protected here: this is its own shard, so the shard does not stay
          subst hne
          have hri := (hsi.mem_iff r).mp (H.sub s.ev hsi.ok r hr)
          exact absurd (hc.placed j s hs r hri).2.symm (hu r hf hle (hc.real j s hs r hri))
        · rw [hne]; exact heldCnt_dec_gt (by omega)
      · exact other hr hne
    | release hf' =>
      rw [hf] at hf'; cases hf'
      obtain ⟨h1, h2⟩ := U.release_removes s.ev x hsi.ok r hr
      exact other h1 fun e => h2 (e ▸ rfl)
    | evict _ _ hp =>
      cases hp with
      | all ho => rcases ho with h | h <;> cases h
  · have hmono : ∀ r, heldCnt c.held r ≤ heldCnt (Cache.step P cfg c op).1.held r := fun r => by
      rcases hinc with h | ⟨x, h⟩ <;> rw [h]
      · exact Nat.le_refl _
      · exact heldCnt_inc_ge _ _ _
    have keep : r ∈ prot s.ev → 0 < heldCnt (Cache.step P cfg c op).1.held r :=
      fun h => Nat.lt_of_lt_of_le (hh j s hs r h) (hmono r)
    cases mv with
    | stay => exact keep hr
    | emplace key ver weight hint phantom loc age =>
      apply keep
      rcases (emplace_prot (r := { id := c.nextId, key, hash := cfg.H key, ver, weight, hint, phantom, loc, age })
        L H hsi fun x hx => Nat.ne_of_lt (hc.fresh j s hs x hx)).2 with hp | ⟨t, old, ht, hpt, ho, _, hp⟩
      · rwa [hp] at hr
      · rw [hp] at hr
        exact hpt ▸ unlinked ht ho hr
    | @acquire key x hj hf =>
      rcases U.acquire_only s.ev x hsi.ok r hr with h | h
      · exact keep h
      · have hx := (findKey_some hf).1
        have hrm := (L.acquire_mem _ x hsi.ok r).mp (H.sub _ (L.acquire_ok _ x hsi.ok) r hr)
        rw [eq_of_id_eq (L.nodup s.ev hsi.ok) hrm ((hsi.mem_iff x).mpr hx) h]
        -- the table after a hit is `heldInc c.held x`
        rw [(step_get_hit P (by simp only [Cache.lookup, ← hj, hs]; exact hf)).held]
        exact heldCnt_inc_self _ _
    | @touch key x hj hf =>
      have hx := (findKey_some hf).1
      have hok := L.acquire_ok s.ev x hsi.ok
      split at hr
      · obtain ⟨h1, h2⟩ := U.release_removes _ x hok r hr
        exact keep ((U.acquire_only s.ev x hsi.ok r h1).resolve_right h2)
      · rename_i hz
        rcases U.acquire_only s.ev x hsi.ok r hr with h | h
        · exact keep h
        · have hrm := (L.acquire_mem _ x hsi.ok r).mp (H.sub _ hok r hr)
          rw [eq_of_id_eq (L.nodup s.ev hsi.ok) hrm ((hsi.mem_iff x).mpr hx) h]
          exact Nat.lt_of_lt_of_le (Nat.pos_of_ne_zero hz) (hmono x)
    | unlink _ hf => exact keep (unlinked hsi (findKey_some hf).1 hr)
    | release hf' => rw [hnd _ rfl] at hf'; cases hf'
    | clear => rw [show prot (P.clear s.ev) = [] from U.clear s.ev hsi.ok] at hr; cases hr
    | evict t target hp =>
      apply keep
      rwa [(evict_protects L H (hp.moves L hsi).inv target).1, hp.prot_eq H hsi.ok] at hr

theorem heldInv_new (U : Unprotects P Ok prot) (cfg : Cfg) (cap : Nat) : HeldInv prot (Cache.new P cfg cap) := by
  intro i s hs r hr
  rw [new_getElem? hs] at hr
  rw [show prot (Shard.new P _).ev = [] from U.init _] at hr
  cases hr

theorem heldInv_run (L : Lawful P Ok) (H : Protects P Ok prot) (U : Unprotects P Ok prot) {cfg : Cfg}
    (hn : 0 < cfg.nshards) (ops : List Op) (c : Cache σ) (hc : CacheInv P Ok cfg c) (hh : HeldInv prot c) :
    HeldInv prot (Cache.run P cfg c ops).1 :=
  (Cache.run_induction (I := fun c => CacheInv P Ok cfg c ∧ HeldInv prot c)
    (fun _ op h => ⟨step_inv L hn h.1 op, heldInv_step L H U h.1 h.2 op⟩) ops c ⟨hc, hh⟩).2

end Foyer
