import FoyerProofs.C01Refine
import FoyerProofs.C01
/-
  The disk side of the hybrid model as a state machine of its own (submit / delete / flusher batch /
  disk-capacity eviction / clear / graceful restart), one hash at a time.

  `RInv h s`: the index entry the hash `h` will have once the flusher has written what it holds (`pview`) is
  exactly what *recovery* would reconstruct from the device log and the tombstone log as they will be then
  (`vdisk`, `vtombs`): if the index shows an entry, that entry is on the device, strictly newer than every
  other copy of the hash and than every logged tombstone of the hash (`R1`); if it shows none, every copy of
  the hash on the device is older than some logged tombstone (`R2`); sequence numbers on the device and in the
  log are below the counter (`B1`, `B2`).  With the tombstone log enabled this is
  preserved by every disk-side step, and it makes a graceful restart invisible (`reopen_view`, `rinv_restarted`).
-/
namespace Foyer.Hyb
open Foyer

section
variable {σ : Type} (hc : HCfg) (h : Nat)

/-- the device log once the flusher has written what it holds -/
def vdisk (s : HState σ) : List DiskEnt := s.disk ++ entsOf s.queue
/-- the tombstone log once the flusher has written what it holds (with the tombstone log on) -/
def vtombs (s : HState σ) : List (Nat × Nat) := s.tombs ++ tbsOf s.queue

/-- the fields are explained in the header of this file -/
structure RInv (s : HState σ) : Prop where
  seqok : batchLt (assocGet s.index h) s.queue h s.seq
  B1 : ∀ d ∈ vdisk s, d.hash = h → d.seq < s.seq
  B2 : ∀ q, (h, q) ∈ vtombs s → q < s.seq
  R1 : ∀ e, pview hc s h = some (.addr e) →
        e ∈ vdisk s ∧ e.hash = h ∧ (∀ d ∈ vdisk s, d.hash = h → d = e ∨ d.seq < e.seq) ∧
        (∀ q, (h, q) ∈ vtombs s → q < e.seq)
  R2 : (∀ e, pview hc s h ≠ some (.addr e)) → ∀ d ∈ vdisk s, d.hash = h → ∃ q, (h, q) ∈ vtombs s ∧ d.seq < q

/-- index entries sit under their own hash -/
def IHx (s : HState σ) : Prop := ∀ h' e, assocGet s.index h' = some (.addr e) → e.hash = h'

/-- the state after a graceful restart whose closing flush has drained the flusher (`reopenTail_eq`) -/
def restarted (s : HState σ) (m : Cache σ) : HState σ :=
  { s with mem := m, keeper := [], queue := [], inflight := [],
           index := recover s.disk s.tombs, seq := maxSeq s.disk s.tombs + 1 }

end

section
variable {σ : Type} {hc : HCfg} {h : Nat}

theorem vdisk_idle (s : HState σ) (hq : s.queue = []) : vdisk s = s.disk := by
  unfold vdisk; rw [hq]; exact List.append_nil _

theorem vtombs_idle (s : HState σ) (hq : s.queue = []) : vtombs s = s.tombs := by
  unfold vtombs; rw [hq]; exact List.append_nil _

theorem rinv_of_view {s s' : HState σ} (r : RInv hc h s) (hsq : batchLt (assocGet s'.index h) s'.queue h s'.seq)
    (hpv : pview hc s' h = pview hc s h) (hvd : vdisk s' = vdisk s) (hvt : vtombs s' = vtombs s) (hs : s'.seq = s.seq) :
    RInv hc h s' := by
  refine ⟨hsq, ?_, ?_, ?_, ?_⟩
  · rw [hvd, hs]; exact r.B1
  · rw [hvt, hs]; exact r.B2
  · rw [hpv, hvd, hvt]; exact r.R1
  · rw [hpv, hvd, hvt]; exact r.R2

theorem rinv_congr {s s' : HState σ} (r : RInv hc h s) (hi : s'.index = s.index) (hq : s'.queue = s.queue)
    (hd : s'.disk = s.disk) (ht : s'.tombs = s.tombs) (hs : s'.seq = s.seq) : RInv hc h s' := by
  have hpv : pview hc s' h = pview hc s h := by unfold pview; simp only; rw [hi, hq]
  have hvd : vdisk s' = vdisk s := by unfold vdisk; rw [hd, hq]
  have hvt : vtombs s' = vtombs s := by unfold vtombs; rw [ht, hq]
  exact rinv_of_view r (by rw [hi, hq, hs]; exact r.seqok) hpv hvd hvt hs

theorem rinv_append_entry {s s' : HState σ} (r : RInv hc h s) (e : DiskEnt) (hes : e.seq = s.seq)
    (hseq : s'.seq = s.seq + 1) (hvd : vdisk s' = vdisk s ++ [e]) (hvt : vtombs s' = vtombs s)
    (hpv : pview hc s' h = if h = e.hash then some (.addr e) else pview hc s h)
    (hsq : batchLt (assocGet s'.index h) s'.queue h s'.seq) : RInv hc h s' := by
  refine ⟨hsq, ?_, ?_, ?_, ?_⟩
  · intro d hd hdh
    rw [hvd, List.mem_append] at hd
    rw [hseq]
    rcases hd with hd | hd
    · have := r.B1 d hd hdh; omega
    · simp only [List.mem_singleton] at hd; subst hd; omega
  · intro q hq; rw [hvt] at hq; rw [hseq]; have := r.B2 q hq; omega
  · intro e' he'
    rw [hpv] at he'
    by_cases hh : h = e.hash
    · rw [if_pos hh] at he'
      simp only [Option.some.injEq, Idx.addr.injEq] at he'
      subst he'
      refine ⟨by rw [hvd]; exact List.mem_append_right _ List.mem_cons_self, hh.symm, ?_, ?_⟩
      · intro d hd hdh
        rw [hvd, List.mem_append] at hd
        rcases hd with hd | hd
        · right; have := r.B1 d hd hdh; omega
        · left; simp only [List.mem_singleton] at hd; exact hd
      · intro q hq; rw [hvt] at hq; have := r.B2 q hq; omega
    · rw [if_neg hh] at he'
      obtain ⟨a1, a2, a3, a4⟩ := r.R1 e' he'
      refine ⟨by rw [hvd]; exact List.mem_append_left _ a1, a2, ?_, by rw [hvt]; exact a4⟩
      intro d hd hdh
      rw [hvd, List.mem_append] at hd
      rcases hd with hd | hd
      · exact a3 d hd hdh
      · simp only [List.mem_singleton] at hd; subst hd; exact absurd hdh.symm hh
  · intro hno d hd hdh
    by_cases hh : h = e.hash
    · exact absurd (by rw [hpv, if_pos hh]) (hno e)
    · rw [hvd, List.mem_append] at hd
      rcases hd with hd | hd
      · obtain ⟨q, hq1, hq2⟩ := r.R2 (fun e' he' => hno e' (by rw [hpv, if_neg hh]; exact he')) d hd hdh
        exact ⟨q, by rw [hvt]; exact hq1, hq2⟩
      · simp only [List.mem_singleton] at hd; subst hd; exact absurd hdh.symm hh

theorem rinv_append_tomb {s s' : HState σ} (r : RInv hc h s) (th : Nat)
    (hseq : s'.seq = s.seq + 1) (hvd : vdisk s' = vdisk s) (hvt : vtombs s' = vtombs s ++ [(th, s.seq)])
    (hpv : pview hc s' h = if h = th then none else pview hc s h)
    (hsq : batchLt (assocGet s'.index h) s'.queue h s'.seq) : RInv hc h s' := by
  refine ⟨hsq, ?_, ?_, ?_, ?_⟩
  · intro d hd hdh; rw [hvd] at hd; rw [hseq]; have := r.B1 d hd hdh; omega
  · intro q hq
    rw [hvt, List.mem_append] at hq
    rw [hseq]
    rcases hq with hq | hq
    · have := r.B2 q hq; omega
    · simp only [List.mem_singleton, Prod.mk.injEq] at hq; omega
  · intro e' he'
    rw [hpv] at he'
    by_cases hh : h = th
    · rw [if_pos hh] at he'; cases he'
    · rw [if_neg hh] at he'
      obtain ⟨a1, a2, a3, a4⟩ := r.R1 e' he'
      refine ⟨by rw [hvd]; exact a1, a2, by rw [hvd]; exact a3, ?_⟩
      intro q hq
      rw [hvt, List.mem_append] at hq
      rcases hq with hq | hq
      · exact a4 q hq
      · simp only [List.mem_singleton, Prod.mk.injEq] at hq; exact absurd hq.1 hh
  · intro hno d hd hdh
    rw [hvd] at hd
    by_cases hh : h = th
    · refine ⟨s.seq, ?_, r.B1 d hd hdh⟩
      rw [hvt, hh]; exact List.mem_append_right _ List.mem_cons_self
    · obtain ⟨q, hq1, hq2⟩ := r.R2 (fun e' he' => hno e' (by rw [hpv, if_neg hh]; exact he')) d hd hdh
      exact ⟨q, by rw [hvt]; exact List.mem_append_left _ hq1, hq2⟩

theorem vdisk_snoc (s : HState σ) (x : Sub) {s' : HState σ} (hd : s'.disk = s.disk) (hq : s'.queue = s.queue ++ [x]) :
    vdisk s' = vdisk s ++ entsOf [x] := by
  unfold vdisk
  rw [hd, hq, entsOf_append, List.append_assoc]

theorem vtombs_snoc (s : HState σ) (x : Sub) {s' : HState σ} (ht : s'.tombs = s.tombs) (hq : s'.queue = s.queue ++ [x]) :
    vtombs s' = vtombs s ++ tbsOf [x] := by
  unfold vtombs
  rw [ht, hq, tbsOf_append, List.append_assoc]

theorem vdisk_snoc_tomb (s : HState σ) (x : Sub) (hx : x.fits = false) {s' : HState σ} (hd : s'.disk = s.disk)
    (hq : s'.queue = s.queue ++ [x]) : vdisk s' = vdisk s := by
  rw [vdisk_snoc s x hd hq, entsOf_single_tomb hx, List.append_nil]

theorem vtombs_snoc_entry (s : HState σ) (e : DiskEnt) {s' : HState σ} (ht : s'.tombs = s.tombs)
    (hq : s'.queue = s.queue ++ [.entry e true]) : vtombs s' = vtombs s := by
  rw [vtombs_snoc s _ ht hq]
  exact List.append_nil _

theorem rinv_submit {s : HState σ} (r : RInv hc h s) (x : Rec) : RInv hc h (submit s x) := by
  rcases submit_cases s x with ⟨_, hs⟩ | ⟨_, _, hs⟩ | ⟨_, _, hs⟩ <;> rw [hs]
  · exact r
  · obtain ⟨hpv, hsq⟩ := pview_submitDropped hc s x h r.seqok
    exact rinv_append_tomb r x.hash rfl (vdisk_snoc_tomb s (.entry (entOf s x) false) rfl rfl rfl)
      (vtombs_snoc s (.entry (entOf s x) false) rfl rfl) hpv hsq
  · obtain ⟨hpv, hsq⟩ := pview_submitFits hc s x h r.seqok
    exact rinv_append_entry r (entOf s x) rfl rfl (vdisk_snoc s (.entry (entOf s x) true) rfl rfl)
      (vtombs_snoc_entry s (entOf s x) rfl rfl) hpv hsq

theorem rinv_delete {s : HState σ} (r : RInv hc h s) (key : Nat) : RInv hc h (delete hc s key) := by
  obtain ⟨hpv, hsq⟩ := pview_delete hc s key h r.seqok
  exact rinv_append_tomb r (hc.mcfg.H key) rfl (vdisk_snoc_tomb s (.tomb (hc.mcfg.H key) s.seq) rfl rfl rfl)
    (vtombs_snoc s (.tomb (hc.mcfg.H key) s.seq) rfl rfl) hpv hsq

theorem flush_disk_tombs (s : HState σ) (q : QF s) (ht : hc.tombLog = true) :
    (flush hc s).disk = s.disk ++ entsOf s.queue ∧ (flush hc s).tombs = s.tombs ++ tbsOf s.queue := by
  rw [flush_of_qf hc q]
  exact ⟨applyBatch_disk hc s s.queue, applyBatch_tombs hc s s.queue ht⟩

/-- **The flusher writing its batch makes `vdisk`/`vtombs` real and changes nothing else.** -/
theorem rinv_flush {s : HState σ} (r : RInv hc h s) (q : QF s) (ht : hc.tombLog = true) : RInv hc h (flush hc s) := by
  have hq := flush_of_qf_queue hc q
  obtain ⟨hd, htb⟩ := flush_disk_tombs s q ht
  exact rinv_of_view r (flush_of_qf_seqok hc q r.seqok) (flush_of_qf_pview hc q h) (by rw [vdisk_idle _ hq]; exact hd)
    (by rw [vtombs_idle _ hq]; exact htb) (flush_of_qf_seq hc q)

theorem rinv_lost {s : HState σ} (r : RInv hc h s) (ih : IHx s) (hq : s.queue = []) (h' : Nat) (e : DiskEnt)
    (he : indexAddr s.index h' = some e) : RInv hc h (lost s h' e) := by
  have heh : e.hash = h' := ih h' e (indexAddr_eq_some.mp he)
  have hvd0 := vdisk_idle s hq
  have hvt0 := vtombs_idle s hq
  have hq' : (lost s h' e).queue = [] := hq
  obtain ⟨hpv', hsq'⟩ := pview_lost hc s hq h' e h r.seqok
  have hvd' : vdisk (lost s h' e) = s.disk.filter fun d => !(d.hash = e.hash && d.seq ≤ e.seq) := vdisk_idle _ hq'
  have hvt' : vtombs (lost s h' e) = s.tombs := vtombs_idle _ hq'
  have hsub : ∀ d ∈ vdisk (lost s h' e), d ∈ vdisk s := by
    intro d hd; rw [hvd'] at hd; rw [hvd0]; exact (List.mem_filter.mp hd).1
  refine ⟨?_, ?_, ?_, ?_, ?_⟩
  · exact hsq'
  · intro d hd hdh; exact r.B1 d (hsub d hd) hdh
  · intro q hq1; rw [hvt'] at hq1; exact r.B2 q (by rw [hvt0]; exact hq1)
  · intro e' he'
    rw [hpv'] at he'
    by_cases hh : h = h'
    · rw [if_pos hh] at he'; cases he'
    · rw [if_neg hh] at he'
      obtain ⟨a1, a2, a3, a4⟩ := r.R1 e' he'
      refine ⟨?_, a2, fun d hd hdh => a3 d (hsub d hd) hdh, ?_⟩
      · rw [hvd', List.mem_filter]
        refine ⟨by rw [← hvd0]; exact a1, ?_⟩
        have : ¬ e'.hash = e.hash := by rw [a2, heh]; exact hh
        simp [this]
      · intro q hq1; rw [hvt'] at hq1; exact a4 q (by rw [hvt0]; exact hq1)
  · intro hno d hd hdh
    by_cases hh : h = h'
    · -- every copy of the hash was at most as new as the indexed entry: none is left
      exfalso
      have hpv : pview hc s h = some (.addr e) := by
        rw [pview_idle hc s h hq, hh]; exact indexAddr_eq_some.mp he
      obtain ⟨_, _, a3, _⟩ := r.R1 e hpv
      have hdf := hd
      rw [hvd', List.mem_filter] at hdf
      have hkeep := hdf.2
      have hdhe : d.hash = e.hash := by rw [hdh, heh, hh]
      rcases a3 d (hsub d hd) hdh with h1 | h1
      · subst h1; simp at hkeep
      · simp [hdhe] at hkeep; omega
    · obtain ⟨q, hq1, hq2⟩ := r.R2 (fun e' he' => hno e' (by rw [hpv', if_neg hh]; exact he')) d (hsub d hd) hdh
      exact ⟨q, by rw [hvt', ← hvt0]; exact hq1, hq2⟩

theorem rinv_wipe {s : HState σ} (hB2 : ∀ q, (h, q) ∈ s.tombs → q < s.seq) (hq : s.queue = []) :
    RInv hc h ({ s with index := [], disk := [] } : HState σ) := by
  have hq' : ({ s with index := [], disk := [] } : HState σ).queue = [] := hq
  refine ⟨?_, ?_, ?_, ?_, ?_⟩
  · show batchLt (assocGet ([] : List (Nat × Idx)) h) s.queue h s.seq
    rw [hq]
    exact batchLt_nil (seqLt_none _)
  · intro d hd _
    rw [vdisk_idle _ hq'] at hd
    cases hd
  · intro q hq1
    rw [vtombs_idle _ hq'] at hq1
    exact hB2 q hq1
  · intro e he
    have : pview hc ({ s with index := [], disk := [] } : HState σ) h = none := by
      unfold pview; simp only; rw [hq]; rfl
    rw [this] at he; cases he
  · intro _ d hd _
    rw [vdisk_idle _ hq'] at hd
    cases hd

theorem reopenTail_eq (ht : hc.tombLog = true) (s : HState σ) (m : Cache σ) :
    reopenTail hc s m = restarted (flush hc { s with held := false, gated := false }) m := by
  simp only [reopenTail, ht, if_true, restarted]

end

section
variable {σ : Type} (hc : HCfg) (h : Nat)

/-- **A graceful restart shows, for the hash, exactly what the index showed** (tombstone log on). -/
theorem reopen_view {s : HState σ} (r : RInv hc h s) (hq : s.queue = []) :
    indexAddr (recover s.disk s.tombs) h = indexAddr s.index h := by
  have hvd0 := vdisk_idle s hq
  have hvt0 := vtombs_idle s hq
  have hpv := pview_idle hc s h hq
  cases hcur : indexAddr s.index h with
  | some e0 =>
    have hp : pview hc s h = some (.addr e0) := by rw [hpv]; exact indexAddr_eq_some.mp hcur
    obtain ⟨a1, a2, a3, a4⟩ := r.R1 e0 hp
    rw [hvd0] at a1 a3
    rw [hvt0] at a4
    exact recovery_complete h s.disk s.tombs e0 a1 a2 a3 a4
  | none =>
    cases hrv : indexAddr (recover s.disk s.tombs) h with
    | none => rfl
    | some e =>
      exfalso
      obtain ⟨b1, b2, _, b4⟩ := recovery_picks_latest s.disk s.tombs h e hrv
      have hno : ∀ e', pview hc s h ≠ some (.addr e') := by
        intro e' he'
        rw [hpv] at he'
        unfold indexAddr at hcur
        rw [he'] at hcur
        cases hcur
      obtain ⟨q, hq1, hq2⟩ := r.R2 hno e (by rw [hvd0]; exact b1) b2
      rw [hvt0] at hq1
      have := b4 q hq1
      omega

end

section
variable {σ : Type} {hc : HCfg} {h : Nat}

theorem pview_restarted {s : HState σ} (r : RInv hc h s) (hq : s.queue = []) (m : Cache σ) (e : DiskEnt) :
    pview hc (restarted s m) h = some (.addr e) ↔ pview hc s h = some (.addr e) := by
  rw [pview_idle hc s h hq, show pview hc (restarted s m) h = assocGet (recover s.disk s.tombs) h from rfl,
    ← indexAddr_eq_some, ← indexAddr_eq_some, reopen_view hc h r hq]

theorem rinv_restarted {s : HState σ} (r : RInv hc h s) (hq : s.queue = []) (m : Cache σ) :
    RInv hc h (restarted s m) := by
  have hvd : vdisk (restarted s m) = vdisk s := (vdisk_idle (restarted s m) rfl).trans (vdisk_idle s hq).symm
  have hvt : vtombs (restarted s m) = vtombs s := (vtombs_idle (restarted s m) rfl).trans (vtombs_idle s hq).symm
  have hiff := pview_restarted r hq m
  obtain ⟨m1, m2⟩ := maxSeq_ge s.disk s.tombs
  refine ⟨?_, ?_, ?_, ?_, ?_⟩
  · show batchLt (assocGet (recover s.disk s.tombs) h) [] h (maxSeq s.disk s.tombs + 1)
    refine batchLt_nil (fun i hi => ?_)
    obtain ⟨e, he1, he2⟩ := recover_addr s.disk s.tombs i hi
    subst he1
    exact Nat.lt_succ_of_le (m1 e (recovery_picks_latest s.disk s.tombs h e he2).1)
  · intro d hd _
    rw [hvd, vdisk_idle s hq] at hd
    exact Nat.lt_succ_of_le (m1 d hd)
  · intro q hq1
    rw [hvt, vtombs_idle s hq] at hq1
    exact Nat.lt_succ_of_le (m2 (h, q) hq1)
  · intro e he
    rw [hvd, hvt]
    exact r.R1 e ((hiff e).mp he)
  · intro hno
    rw [hvd, hvt]
    exact r.R2 fun e he => hno e ((hiff e).mpr he)

end
end Foyer.Hyb
