import FoyerProofs.C13
import FoyerProofs.C02
/-
  Facts about the memory tier (`FoyerModel.Mem`) in the form the hybrid proofs use them: the lookup of one
  key across a step, what `ins` returns, what reaches the pipe, the handle table of a cache whose
  handles are dropped within the API call that obtained them (`held = []` between calls, `[(r, 1)]` while a
  call holds `r`), and that `flush` empties a cache whose entries weigh at least 1 when the policy always
  yields a victim (`Drains`).
-/
namespace Foyer

variable {σ : Type} {P : Policy σ} {Ok : σ → Prop}

theorem lookup_after_ins {cfg : Cfg} (hn : 0 < cfg.nshards) {c : Cache σ}
    (hc : CacheInv P Ok cfg c) {key ver w : Nat} {hint : Hint} {loc : Loc} {age : Age} {r : Rec}
    (hr : (Cache.step P cfg c (.ins key ver w hint false loc age)).2.ret = .handle r) :
    Cache.lookup cfg (Cache.step P cfg c (.ins key ver w hint false loc age)).1 key = some r := by
  rcases C02.lookup_written P (hc.shard_lt hn key) (.ins ver w hint false loc age) none with h | h
  · rw [h]; simp only [regStep, if_true, hr, Bool.false_eq_true, if_false]
  · rw [h] at hr; cases hr

/-- memory operations that neither write key `k` nor are outside what the hybrid layer issues -/
def quietFor (k : Nat) : Op → Prop
  | .ins key _ _ _ _ _ _ => key ≠ k
  | .remove key => key ≠ k
  | .clear => False
  | .resize _ => False
  | _ => True

theorem regStep_quietFor {k : Nat} {op : Op} (h : quietFor k op) (cur : Option Rec) (out : Out) :
    regStep k cur op out = cur := by
  refine C02.regStep_of_not_writes (fun hw => ?_) cur out
  cases hw with
  | ins => exact h rfl
  | remove => exact h rfl
  | clear => exact h

theorem lookup_step_quiet (L : Lawful P Ok) {cfg : Cfg} (hn : 0 < cfg.nshards) {c : Cache σ}
    (hc : CacheInv P Ok cfg c) {k : Nat} {op : Op} (hq : quietFor k op) :
    Cache.lookup cfg (Cache.step P cfg c op).1 k = none ∨
    Cache.lookup cfg (Cache.step P cfg c op).1 k = Cache.lookup cfg c k := by
  have hl := C02.lookup_step L hn hc k op (Cache.lookup cfg c k) (Or.inr rfl)
  rw [regStep_quietFor hq] at hl
  exact hl

/-- remove, clear and a disk-only insert of `k` take `k` out of memory -/
theorem lookup_step_kill (L : Lawful P Ok) {cfg : Cfg} (hn : 0 < cfg.nshards) {c : Cache σ}
    (hc : CacheInv P Ok cfg c) {k : Nat} {op : Op} (hreg : ∀ cur out, regStep k cur op out = none) :
    Cache.lookup cfg (Cache.step P cfg c op).1 k = none := by
  have hl := C02.lookup_step L hn hc k op (Cache.lookup cfg c k) (Or.inr rfl)
  rw [hreg] at hl
  exact hl.elim id id

theorem lookup_none_step_quiet (L : Lawful P Ok) {cfg : Cfg} (hn : 0 < cfg.nshards) {c : Cache σ}
    (hc : CacheInv P Ok cfg c) {k : Nat} {op : Op} (hq : quietFor k op) (hl : Cache.lookup cfg c k = none) :
    Cache.lookup cfg (Cache.step P cfg c op).1 k = none :=
  (lookup_step_quiet L hn hc hq).elim id (fun h => h.trans hl)

theorem lookup_ins_phantom (L : Lawful P Ok) {cfg : Cfg} (hn : 0 < cfg.nshards) {c : Cache σ}
    (hc : CacheInv P Ok cfg c) (k ver w : Nat) (hint : Hint) (loc : Loc) (age : Age) :
    Cache.lookup cfg (Cache.step P cfg c (.ins k ver w hint true loc age)).1 k = none :=
  lookup_step_kill L hn hc (by intro _ _; simp only [regStep, if_true])

theorem lookup_hash {cfg : Cfg} {c : Cache σ} (hc : CacheInv P Ok cfg c) {k : Nat} {r : Rec}
    (h : Cache.lookup cfg c k = some r) : r.hash = cfg.H k ∧ r.phantom = false := by
  have hk := lookup_key h
  unfold Cache.lookup at h
  split at h
  · cases h
  · rename_i s hs
    have hm := (findKey_some h).1
    exact ⟨by rw [(hc.placed _ s hs r hm).1, hk], hc.real _ s hs r hm⟩

theorem ins_handle_fields {cfg : Cfg} {c : Cache σ} {key ver w : Nat} {h : Hint} {ph : Bool} {loc : Loc}
    {age : Age} {r : Rec} (hr : (Cache.step P cfg c (.ins key ver w h ph loc age)).2.ret = .handle r) :
    r.key = key ∧ r.ver = ver ∧ r.loc = loc ∧ r.age = age ∧ r.phantom = ph ∧ r.hash = cfg.H key ∧ r.id = c.nextId ∧
    r.weight = w := by
  rw [(ins_handle_eq hr).1]
  exact ⟨rfl, rfl, rfl, rfl, rfl, rfl, rfl, rfl⟩

theorem ins_returns_handle (L : Lawful P Ok) {cfg : Cfg} (hn : 0 < cfg.nshards) {c : Cache σ} (hci : CacheInv P Ok cfg c)
    (key ver w : Nat) (hint : Hint) (ph : Bool) (loc : Loc) (age : Age) :
    ∃ r, (Cache.step P cfg c (.ins key ver w hint ph loc age)).2.ret = .handle r := by
  have hnp := step_no_panic L hci (.ins key ver w hint ph loc age)
  rw [step_ins P (List.getElem?_eq_getElem (hci.shard_lt hn key)) rfl] at hnp ⊢
  split
  · rename_i hp; rw [if_pos hp] at hnp; exact absurd rfl hnp
  · exact ⟨_, rfl⟩

def Op.isDrop : Op → Bool
  | .drop _ => true
  | _ => false

theorem mem_piped_iff {cfg : Cfg} {c : Cache σ} {op : Op} {x : Rec} :
    x ∈ (Cache.step P cfg c op).2.piped ↔ (Reason.evict, x) ∈ (Cache.step P cfg c op).2.leaves := by
  rw [C13.pipe_iff_evict, mem_evictedOf_iff]

theorem evicted_findable (L : Lawful P Ok) {cfg : Cfg} {c : Cache σ} (hc : CacheInv P Ok cfg c) (op : Op) {x : Rec}
    (hx : (Reason.evict, x) ∈ (Cache.step P cfg c op).2.leaves) : x ∈ c.findable ∨ op.isDrop = true := by
  obtain ⟨F, A, sh⟩ := step_shape P cfg c op
  rcases sh.of_mem_leaves hx with ⟨j, s, hs, mv, hx⟩ | ⟨rid, _, rfl, _⟩
  · exact Or.inl (mem_findable_of_shard hs (mv.evicted_mem L (hc.shard j s hs) hx))
  · exact Or.inr rfl

theorem ShardMove.quiet_leaf {cfg : Cfg} {c : Cache σ} {j : Nat} {s : Shard σ} {op : Op} {adm : List Rec}
    {res : Shard σ × List (Reason × Rec) × Bool} (mv : ShardMove P cfg c j s op adm res) {k : Nat} (hq : quietFor k op)
    {e : Reason} {r : Rec} (h : (e, r) ∈ res.2.1) (hk : r.key = k) (hph : r.phantom = false) : e = .evict := by
  cases mv with
  | emplace key ver weight hint phantom loc age =>
    rcases emplace_leaves h with he | ⟨_, hkey⟩ | ⟨_, hp, hr⟩
    · exact he
    · exact absurd (hkey.symm.trans hk) hq
    · rw [hr, hp] at hph; cases hph
  | unlink _ hf =>
    cases List.mem_singleton.mp h
    exact absurd ((findKey_some hf).2.symm.trans hk) hq
  | clear => exact hq.elim
  | evict => exact (mem_map_pair.mp h).1
  | _ => cases h

/-- **An evicted record reaches the pipe**: if a step that does not write `k` makes the record of `k`
unfindable, that record is among what the step hands to the disk tier. -/
theorem evicted_is_piped (L : Lawful P Ok) {cfg : Cfg} (hn : 0 < cfg.nshards) {c : Cache σ}
    (hc : CacheInv P Ok cfg c) (k : Nat) (op : Op) (hq : quietFor k op) (r : Rec)
    (hl : Cache.lookup cfg c k = some r) (hl' : Cache.lookup cfg (Cache.step P cfg c op).1 k = none) :
    r ∈ (Cache.step P cfg c op).2.piped := by
  -- `r` is gone and not replaced, so by conservation it was reported; a step that does not write `k` reports an
  -- ordinary record of key `k` only as evicted
  have hrk : r.key = k := lookup_key hl
  rcases List.mem_append.mp ((step_conservation L hc op).subset (List.mem_append_right _ (findable_of_lookup hl)))
    with h1 | h1
  · have := lookup_of_findable (step_inv L hn hc op) h1
    rw [hrk, hl'] at this; cases this
  · obtain ⟨hph, e, he⟩ := mem_leftRecs.mp h1
    obtain ⟨F, A, sh⟩ := step_shape P cfg c op
    rcases sh.of_mem_leaves he with ⟨j, s, _, mv, hm⟩ | ⟨_, _, _, _, _, hx⟩
    · rw [mem_piped_iff, ← mv.quiet_leaf hq hm hrk hph]; exact he
    · cases hx; exact mem_piped_iff.mpr he

/-- what reaches the pipe, handle drops apart, was the lookup of its key -/
theorem piped_is_lookup (L : Lawful P Ok) {cfg : Cfg} {c : Cache σ} (hc : CacheInv P Ok cfg c) (op : Op)
    (hnd : op.isDrop = false) (x : Rec) (hx : x ∈ (Cache.step P cfg c op).2.piped) :
    Cache.lookup cfg c x.key = some x := by
  exact lookup_of_findable hc ((evicted_findable L hc op (mem_piped_iff.mp hx)).resolve_right (by rw [hnd]; exact Bool.false_ne_true))

/-- a disk-only insert evicts nothing -/
theorem ins_phantom_piped_nil (L : Lawful P Ok) {cfg : Cfg} {c : Cache σ} (hc : CacheInv P Ok cfg c)
    (key ver w : Nat) (hint : Hint) (loc : Loc) (age : Age) :
    (Cache.step P cfg c (.ins key ver w hint true loc age)).2.piped = [] := by
  rw [C13.pipe_iff_evict]
  refine evictedOf_eq_nil fun x hx he => ?_
  simp only [Cache.step] at hx
  split at hx
  · cases hx
  · rename_i s hs
    exact (emplace_phantom_neutral L (hc.shard _ s hs) rfl).1 x.2 (by rw [← he]; exact hx)

/-- What a step hands to the pipe: an ordinary record that was findable before the step or that the step
itself admitted — or a disk-only (phantom) record. -/
theorem piped_origin (L : Lawful P Ok) {cfg : Cfg} {c : Cache σ} (hc : CacheInv P Ok cfg c) (op : Op) (r : Rec)
    (hr : r ∈ (Cache.step P cfg c op).2.piped) :
    r.phantom = true ∨ r ∈ c.findable ∨ r ∈ admittedOf op (Cache.step P cfg c op).2 := by
  by_cases hp : r.phantom = true
  · left; exact hp
  · right
    have hl := mem_piped_iff.mp hr
    have hleft : r ∈ leftRecs (Cache.step P cfg c op).2.leaves :=
      mem_leftRecs.mpr ⟨by simpa using hp, _, hl⟩
    have hperm := step_conservation L hc op
    have : r ∈ admittedOf op (Cache.step P cfg c op).2 ++ c.findable :=
      hperm.symm.subset (List.mem_append.mpr (Or.inr hleft))
    rcases List.mem_append.mp this with h1 | h1
    · right; exact h1
    · left; exact h1

theorem held_ins {cfg : Cfg} {c : Cache σ} (hh : c.held = []) {key ver w : Nat} {hint : Hint} {ph : Bool} {loc : Loc}
    {age : Age} {r : Rec} (hr : (Cache.step P cfg c (.ins key ver w hint ph loc age)).2.ret = .handle r) :
    (Cache.step P cfg c (.ins key ver w hint ph loc age)).1.held = [(r, 1)] := by
  rw [(ins_handle_eq hr).2.2, hh]; rfl

theorem held_drop (P : Policy σ) (cfg : Cfg) {c : Cache σ} {r : Rec} (hh : c.held = [(r, 1)]) :
    (Cache.step P cfg c (.drop r.id)).1.held = [] ∧
    (Cache.step P cfg c (.drop r.id)).2.piped = if r.phantom then [r] else [] := by
  simp only [Cache.step, hh, heldFind, if_true, heldCnt, Nat.le_refl, heldDec]
  cases hp : r.phantom with
  | true => simp
  | false =>
    simp only [Bool.false_eq_true, if_false]
    split <;> simp

theorem held_evictAll (cfg : Cfg) (c : Cache σ) : (Cache.step P cfg c .evictAll).1.held = c.held := rfl

theorem held_clear (cfg : Cfg) (c : Cache σ) : (Cache.step P cfg c .clear).1.held = c.held := rfl

theorem held_flush (cfg : Cfg) (c : Cache σ) : (Cache.step P cfg c .flush).1.held = c.held := rfl

/-- the policy yields a victim as long as it tracks a record -/
def Drains (P : Policy σ) (Ok : σ → Prop) : Prop := ∀ s, Ok s → P.pop s = none → P.members s = []

theorem fifo_drains : Drains fifoPolicy (fun s => idsNodup s.q) := by
  intro s _ hp
  cases hq : s.q with
  | nil => exact hq
  | cons r rs =>
    have : fifoPolicy.pop s = some (r, { q := rs }) := by
      show (match s.q with | [] => none | r :: rs => some (r, ({ q := rs } : Fifo))) = _
      rw [hq]
    rw [this] at hp; cases hp

theorem wsum_zero_nil : ∀ (l : List Rec), (∀ r ∈ l, 1 ≤ r.weight) → wsum l = 0 → l = [] := by
  intro l
  cases l with
  | nil => intro _ _; rfl
  | cons r rs =>
    intro hw h0
    have := hw r List.mem_cons_self
    simp only [wsum] at h0
    omega

theorem evict_zero_empties (L : Lawful P Ok) (D : Drains P Ok) {s : Shard σ} (h : ShardInv P Ok s)
    (hw : ∀ r ∈ s.index, 1 ≤ r.weight) : (Shard.evict P s 0).1.index = [] := by
  obtain ⟨s1, vs, heq, e⟩ := evict_eq L h 0
  have m := e.moves
  rw [heq]
  rcases e.done with hd | hd
  · refine wsum_zero_nil _ (fun r hr => hw r (m.index_sub hr)) ?_
    show wsum s1.index = 0
    have := m.inv.usage_eq
    omega
  · rw [List.eq_nil_iff_forall_not_mem]
    intro r hr
    have := (m.inv.mem_iff r).mpr hr
    rw [D _ m.inv.ok hd] at this
    cases this

/-- every findable entry weighs at least 1 -/
def WPos (c : Cache σ) : Prop := ∀ r ∈ c.findable, 1 ≤ r.weight

/-- **`flush` leaves nothing findable.** -/
theorem flush_lookup_none (L : Lawful P Ok) (D : Drains P Ok) {cfg : Cfg} {c : Cache σ} (hc : CacheInv P Ok cfg c)
    (hw : WPos c) (k : Nat) : Cache.lookup cfg (Cache.step P cfg c .flush).1 k = none := by
  simp only [Cache.lookup, step_flush_getElem?]
  cases hs : c.shards[cfg.shardOf (cfg.H k)]? with
  | none => rfl
  | some s =>
    simp only [Option.map_some]
    rw [evict_zero_empties L D (hc.shard _ s hs) fun r hr => hw r (mem_findable_of_shard hs hr)]
    rfl

theorem wpos_new (P : Policy σ) (cfg : Cfg) (cap : Nat) : WPos (Cache.new P cfg cap) := by
  intro r hr
  rw [findable_new] at hr
  cases hr

/-- 1 for an operation that inserts nothing, so that `1 ≤ op.insWeight` asks nothing of it. -/
def Op.insWeight : Op → Nat
  | .ins _ _ w _ _ _ _ => w
  | _ => 1

theorem wpos_step (L : Lawful P Ok) {cfg : Cfg} {c : Cache σ} (hc : CacheInv P Ok cfg c) (hw : WPos c) (op : Op)
    (hop : 1 ≤ op.insWeight) : WPos (Cache.step P cfg c op).1 := by
  intro r hr
  have hperm := step_conservation L hc op
  rcases List.mem_append.mp (hperm.symm.subset (List.mem_append.mpr (Or.inl hr))) with h1 | h1
  · obtain ⟨key, ver, w, hint, loc, age, rfl, rfl⟩ := ins_of_admitted h1
    exact hop
  · exact hw r h1

end Foyer
