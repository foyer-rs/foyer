import FoyerProofs.Lemmas.Mem
/-
  `Shard.emplace`.  For an ordinary record it is evict ; (unlink the indexed copy of the key) ; link
  (`emplace_eq`), so `EmplaceSpec` is a composition of the transitions of `Lemmas/Mem`.  A disk-only
  (phantom) record is not indexed; it only displaces the indexed copy of its key (`emplace_phantom`).
-/
namespace Foyer

variable {σ : Type} {P : Policy σ} {Ok : σ → Prop}

/-- Specification of `emplace` for an ordinary (non-phantom) record. -/
structure EmplaceSpec (P : Policy σ) (Ok : σ → Prop) (s : Shard σ) (r : Rec)
    (res : Shard σ × List (Reason × Rec) × Bool) : Prop where
  no_panic : res.2.2 = false
  inv : ShardInv P Ok res.1
  cap_eq : res.1.cap = s.cap
  /-- the record is findable afterwards -/
  index_new : r ∈ res.1.index
  /-- everything else that is findable was findable before -/
  index_old : ∀ x, x ∈ res.1.index → x = r ∨ x ∈ s.index
  /-- conservation: the new record plus what was indexed = what is indexed now plus what left -/
  perm : (r :: s.index).Perm (res.1.index ++ res.2.1.map (·.2))
  shape : ∃ (s1 : Shard σ) (vs : List Rec) (repl : List (Reason × Rec)),
    Shard.evict P s (s.cap - r.weight) = (s1, vs, false) ∧
    EvictSpec P Ok (s.cap - r.weight) s [] (s1, vs, false) ∧
    res.2.1 = vs.map (fun v => (Reason.evict, v)) ++ repl ∧
    ((repl = [] ∧ findKey r.key s1.index = none ∧ res.1.usage = s1.usage + r.weight ∧
        res.1.entries = s1.entries + 1) ∨
     (∃ old, repl = [(Reason.replace, old)] ∧ findKey r.key s1.index = some old ∧
        res.1.usage + old.weight = s1.usage + r.weight ∧ res.1.entries = s1.entries))

theorem emplace_eq (L : Lawful P Ok) {s : Shard σ} (h : ShardInv P Ok s) {r : Rec} (hph : r.phantom = false) :
    ∃ s1 vs, Shard.evict P s (s.cap - r.weight) = (s1, vs, false) ∧ Moves P Ok s s1 [] vs ∧ Pops P s.ev vs s1.ev ∧
      Shard.emplace P s r = match findKey r.key s1.index with
        | some old =>
          (Shard.link P (Shard.unlink P s1 old) r, vs.map (fun v => (Reason.evict, v)) ++ [(.replace, old)], false)
        | none => (Shard.link P s1 r, vs.map (fun v => (Reason.evict, v)), false) := by
  obtain ⟨s1, vs, hevq, e⟩ := evict_eq L h (s.cap - r.weight)
  have m1 := e.moves
  refine ⟨s1, vs, hevq, m1, e.pops, ?_⟩
  unfold Shard.emplace
  simp only [hph, Bool.false_eq_true, if_false, hevq]
  cases hold : findKey r.key s1.index with
  | none => rfl
  | some old =>
    obtain ⟨hoi, hok⟩ := findKey_some hold
    have he1 : 0 < s1.entries := by rw [m1.inv.entries_eq]; exact List.length_pos_of_mem hoi
    -- the two shards differ in `entries` only: `s1.entries` against `s1.entries - 1 + 1`
    simp only [Shard.link, Shard.unlink, hok, Prod.mk.injEq, and_true]
    congr 1
    omega

theorem emplace_spec (L : Lawful P Ok) {s : Shard σ} (h : ShardInv P Ok s) {r : Rec}
    (hph : r.phantom = false) (hfresh : ∀ x ∈ s.index, x.id ≠ r.id) :
    EmplaceSpec P Ok s r (Shard.emplace P s r) := by
  have es := evict_spec L h (s.cap - r.weight)
  obtain ⟨s1, vs, hevq, m1, _, heq⟩ := emplace_eq L h hph
  rw [hevq] at es
  rw [heq]
  have hfresh1 : ∀ x ∈ s1.index, x.id ≠ r.id := fun x hx => hfresh x (m1.index_sub hx)
  have hmapsnd : ∀ (l : List Rec) (rest : List (Reason × Rec)),
      (l.map (fun v => (Reason.evict, v)) ++ rest).map (·.2) = l ++ rest.map (·.2) := by
    intro l rest; simp [List.map_map, Function.comp_def]
  have index_old : ∀ {s' : Shard σ} {out}, Moves P Ok s s' [r] out → ∀ x ∈ s'.index, x = r ∨ x ∈ s.index :=
    fun m x hx => (m.mem_index hx).imp_left (by simp)
  split
  · rename_i old hold
    obtain ⟨hoi, hok⟩ := findKey_some hold
    have m2 := unlink_moves L m1.inv hoi
    have hidx2 : (Shard.unlink P s1 old).index = eraseKey r.key s1.index := by rw [unlink_eq m1.inv hoi, hok]
    have m3 := link_moves L m2.inv (r := r)
      (fun x hx => hfresh1 x (m2.index_sub hx))
      (fun x hx => by rw [hidx2] at hx; exact (mem_eraseKey.mp hx).2)
    have m := (m1.trans m2).trans m3
    have hu := m3.usage m2.inv
    have hu2 := m2.usage m1.inv
    have he := m3.entries m2.inv
    have he2 := m2.entries m1.inv
    simp only [wsum, Nat.add_zero, List.length_cons, List.length_nil] at hu hu2 he he2
    refine ⟨rfl, m.inv, es.cap_eq, List.mem_cons_self, index_old m, ?_, s1, vs, [(.replace, old)], hevq, es, rfl,
      Or.inr ⟨old, rfl, hold, ?_, ?_⟩⟩
    · rw [hmapsnd]; simpa using m.perm
    · show (Shard.link P (Shard.unlink P s1 old) r).usage + old.weight = s1.usage + r.weight; omega
    · show (Shard.link P (Shard.unlink P s1 old) r).entries = s1.entries; omega
  · rename_i hnone
    have m := m1.trans (link_moves L m1.inv hfresh1 (findKey_none.mp hnone))
    refine ⟨rfl, m.inv, es.cap_eq, List.mem_cons_self, index_old m, ?_, s1, vs, [], hevq, es, by simp,
      Or.inl ⟨rfl, hnone, rfl, rfl⟩⟩
    rw [← List.append_nil (List.map _ vs), hmapsnd]; simpa [Shard.link] using m.perm

/-- `C05.insert_evicts_minimally` for one shard: `vs` are the victims, `repl` the replaced copy if any, `s1` the shard
when the eviction loop stopped. -/
theorem emplace_minimal (L : Lawful P Ok) {s : Shard σ} (h : ShardInv P Ok s) {r : Rec}
    (hph : r.phantom = false) (hfresh : ∀ x ∈ s.index, x.id ≠ r.id) :
    (Shard.emplace P s r).2.2 = false ∧
    ∃ (vs : List Rec) (repl : List (Reason × Rec)) (s1 : Shard σ),
      (Shard.emplace P s r).2.1 = vs.map (fun v => (Reason.evict, v)) ++ repl ∧
      (repl = [] ∨ ∃ old, repl = [(Reason.replace, old)] ∧ old.key = r.key ∧ old ∈ s.index) ∧
      (∀ v ∈ vs, v ∈ s.index) ∧
      -- every eviction was necessary
      (∀ pre v post, vs = pre ++ v :: post → s.usage - wsum pre + r.weight > s.cap) ∧
      -- the loop stopped only when it could
      (s1.usage + wsum vs = s.usage) ∧ (s1.usage + r.weight ≤ s.cap ∨ s.cap < r.weight ∨ P.pop s1.ev = none) ∧
      (Shard.emplace P s r).1.cap = s.cap ∧
      ((Shard.emplace P s r).1.usage ≤ s.cap ∨ s.cap < r.weight ∨ P.pop s1.ev = none) := by
  have sp := emplace_spec L h hph hfresh
  generalize Shard.emplace P s r = res at sp
  obtain ⟨s1, vs, repl, _, es, hlv, hcase⟩ := sp.shape
  obtain ⟨vs', hvs, hu, _, hneed, hidx, hsub, _⟩ := es.victims
  simp only [List.nil_append] at hvs
  subst hvs
  have hdone : s1.usage ≤ s.cap - r.weight ∨ P.pop s1.ev = none := es.done
  refine ⟨sp.no_panic, vs, repl, s1, hlv, ?_, hsub, ?_, hu, ?_, sp.cap_eq, ?_⟩
  · rcases hcase with ⟨h1, _⟩ | ⟨old, h1, h2, _⟩
    · exact Or.inl h1
    · have := findKey_some h2
      exact Or.inr ⟨old, h1, this.2, ((hidx old).mp this.1).1⟩
  · intro pre v post hh
    have := hneed pre v post hh
    omega
  · rcases hdone with h | h
    · omega
    · exact Or.inr (Or.inr h)
  · rcases hdone with h | h
    · rcases hcase with ⟨_, _, h3, _⟩ | ⟨old, _, _, h3, _⟩ <;> omega
    · exact Or.inr (Or.inr h)

theorem emplace_phantom (P : Policy σ) (s : Shard σ) {r : Rec} (hph : r.phantom = true) :
    Shard.emplace P s r = match findKey r.key s.index with
      | some old => (Shard.unlink P s old, [(.replace, old), (.remove, r)], false)
      | none => (s, [(.remove, r)], false) := by
  cases h : findKey r.key s.index <;> simp [Shard.emplace, hph, h]

theorem emplace_phantom_neutral (L : Lawful P Ok) {s : Shard σ} (h : ShardInv P Ok s) {r : Rec} (hph : r.phantom = true) :
    (∀ x, (Reason.evict, x) ∉ (Shard.emplace P s r).2.1) ∧ (Shard.emplace P s r).1.usage ≤ s.usage ∧
    (Shard.emplace P s r).1.cap = s.cap := by
  rw [emplace_phantom P s hph]
  split
  · rename_i old hold
    have hu := (unlink_moves L h (findKey_some hold).1).usage h
    simp only [wsum, Nat.add_zero] at hu
    exact ⟨fun x => by simp, by show (Shard.unlink P s old).usage ≤ s.usage; omega, rfl⟩
  · exact ⟨fun x => by simp, Nat.le_refl _, rfl⟩

theorem emplace_leaves {s : Shard σ} {r : Rec} {e : Reason} {x : Rec}
    (h : (e, x) ∈ (Shard.emplace P s r).2.1) :
    e = .evict ∨ (e = .replace ∧ x.key = r.key) ∨ (e = .remove ∧ r.phantom = true ∧ x = r) := by
  cases hph : r.phantom with
  | true =>
    rw [emplace_phantom P s hph] at h
    split at h
    · rename_i old hold
      simp only [List.mem_cons, Prod.mk.injEq, List.not_mem_nil, or_false] at h
      rcases h with ⟨rfl, rfl⟩ | ⟨rfl, rfl⟩
      · exact Or.inr (Or.inl ⟨rfl, (findKey_some hold).2⟩)
      · exact Or.inr (Or.inr ⟨rfl, rfl, rfl⟩)
    · simp only [List.mem_singleton, Prod.mk.injEq] at h
      exact Or.inr (Or.inr ⟨h.1, rfl, h.2⟩)
  | false =>
    simp only [Shard.emplace, hph, Bool.false_eq_true, if_false] at h
    split at h
    · rename_i old hold
      simp only [List.mem_append, List.mem_map, List.mem_singleton, Prod.mk.injEq] at h
      rcases h with ⟨_, _, rfl, _⟩ | ⟨rfl, rfl⟩
      · exact Or.inl rfl
      · exact Or.inr (Or.inl ⟨rfl, (findKey_some hold).2⟩)
    · simp only [List.mem_map, Prod.mk.injEq] at h
      obtain ⟨_, _, rfl, _⟩ := h
      exact Or.inl rfl

end Foyer
