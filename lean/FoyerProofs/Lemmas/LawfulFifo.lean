import FoyerModel.Policies.Fifo
import FoyerModel.Policies.Oracle
import FoyerProofs.Lemmas.LawfulOfPerm
/-
  Lawfulness of the FIFO policy and of the scripted (oracle) policy.
-/
namespace Foyer

theorem fifo_permLaws : PermLaws fifoPolicy (fun _ => True) where
  init_I _ := trivial
  init_members _ := rfl
  push s r _ _ _ := ⟨trivial, List.perm_append_singleton r s.q⟩
  pop s r s' _ _ hp := by
    obtain ⟨_ | ⟨a, q⟩⟩ := s <;> cases hp
    exact ⟨trivial, .refl _⟩
  remove _ _ _ hn hr := ⟨trivial, perm_eraseId hn hr⟩
  acquire _ _ _ _ := ⟨trivial, .refl _⟩
  release _ _ _ _ := ⟨trivial, .refl _⟩
  update _ _ _ _ := ⟨trivial, .refl _⟩
  clear _ _ _ := ⟨trivial, rfl⟩

theorem fifo_lawful : Lawful fifoPolicy (fun s => idsNodup s.q) :=
  Lawful.ofPerm fifo_permLaws fun _ => (Iff.of_eq (true_and _)).symm

theorem pickScript_some {mem : List Rec} {script rest : List Nat} {r : Rec}
    (h : pickScript mem script = some (r, rest)) : r ∈ mem := by
  induction script generalizing rest with
  | nil => simp [pickScript] at h
  | cons i is ih =>
    simp only [pickScript] at h
    split at h
    · rename_i r' hf
      cases h
      exact (findId_some hf).1
    · split at h
      · rename_i r' rest' hp
        cases h
        exact ih hp
      · cases h

theorem oracle_permLaws : PermLaws oraclePolicy (fun _ => True) where
  init_I _ := trivial
  init_members _ := rfl
  push s r _ _ _ := ⟨trivial, List.perm_append_singleton r s.mem⟩
  pop s r s' _ hn hp := by
    dsimp only [oraclePolicy] at hp
    split at hp
    · cases hp
    · rename_i hpick
      cases hp
      exact ⟨trivial, perm_eraseId hn (pickScript_some hpick)⟩
  remove _ _ _ hn hr := ⟨trivial, perm_eraseId hn hr⟩
  acquire _ _ _ _ := ⟨trivial, .refl _⟩
  release _ _ _ _ := ⟨trivial, .refl _⟩
  update _ _ _ _ := ⟨trivial, .refl _⟩
  clear _ _ _ := ⟨trivial, rfl⟩

theorem oracle_lawful : Lawful oraclePolicy (fun s => idsNodup s.mem) :=
  Lawful.ofPerm oracle_permLaws fun _ => (Iff.of_eq (true_and _)).symm

end Foyer
