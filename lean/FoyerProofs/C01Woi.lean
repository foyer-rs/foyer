import FoyerProofs.C01Refine
/-
  C01, part 2 — **the hybrid cache refines a per-key register, under either write policy** (`reads_truth`): for
  an arbitrary `Lawful` memory policy and hasher, every lookup of `k` along a history of `okOp` operations answers
  a miss or what the most recent write of `k` stored (`truthStep`, `readOk`).  Invariant `HInv`: memory holds the
  register value; a record that need not be written when memory lets go of it (`Clean`) agrees with what the disk
  tier shows, any other one reaches the pipe in the memory operation that evicts it (`hinv_memOp`); without `k` in
  memory the disk tier shows the register value.  Not covered: flusher held / device writes gated.
-/
namespace Foyer.Hyb
open Foyer

/-- the register of key `k` -/
def truthStep (k : Nat) (tr : Option Nat) (op : HOp) (ret : HRet) : Option Nat :=
  match op with
  | .ins key ver _ _ => if key = k then some ver else tr
  | .wins key ver _ => if key = k then some ver else tr
  | .rm key => if key = k then none else tr
  | .clear => none
  | .fetch key _ => if key = k then (match ret with | .val _ v _ => some v | _ => tr) else tr
  | _ => tr

/-- the histories the theorem quantifies over -/
def okOp (k : Nat) : HOp → Prop
  | .ins key _ loc _ => key = k → loc ≠ .inMem
  | .hold => False
  | .unhold => False
  | .gate => False
  | .releaseAll => False
  | .releaseBatch => False
  | .reopen => False
  | _ => True

instance (k : Nat) : DecidablePred (okOp k) := fun op => by
  cases op <;> simp only [okOp] <;> infer_instance

/-- what a lookup of `k` may answer when the register holds `tr` -/
def readOk (k : Nat) (tr : Option Nat) (op : HOp) (ret : HRet) : Prop :=
  match op with
  | .get key => key = k → ∀ key' v src, ret = .val key' v src → key' = k ∧ tr = some v
  | .fetch key ov => key = k →
      (∃ v src, ret = .val k v src) ∧ ∀ key' v src, ret = .val key' v src → key' = k ∧ (tr = some v ∨ v = ov)
  | _ => True

section
variable {σ : Type} (P : Policy σ) (hc : HCfg) (Ok : σ → Prop) (L : Lawful P Ok) (hn : 0 < hc.mcfg.nshards)
  (hw : hc.woi = true) (k : Nat)

/-- every lookup of `k` along the history answers from the register -/
def readsOk (k : Nat) : Option Nat → HState σ → List HOp → Prop
  | _, _, [] => True
  | tr, s, op :: ops =>
    readOk k tr op (step P hc s op).2 ∧ readsOk k (truthStep k tr op (step P hc s op).2) (step P hc s op).1 ops

end

section
variable {σ : Type} (P : Policy σ) (hc : HCfg) (Ok : σ → Prop) (L : Lawful P Ok) (hn : 0 < hc.mcfg.nshards) (k : Nat)

/-- a record that is not written when memory lets go of it: any record under write-on-insertion, one populated
from disk under write-on-eviction (`Coh` asks that the disk tier already shows it) -/
def Clean (r : Rec) : Prop := hc.woi = true ∨ r.age = .young

/-- Memory holds the register value of `k`, never under in-memory-only advice, and a clean record agrees with
what the disk tier will show; when memory does not hold `k`, what the disk tier will show is the register value.
(The last argument is the lookup of `k` in memory.) -/
def Coh (tr : Option Nat) (s : HState σ) : Option Rec → Prop
  | some r => tr = some r.ver ∧ r.loc ≠ .inMem ∧ (Clean hc r → Kview hc k s (fun e => e.ver = r.ver))
  | none => Kview hc k s (fun e => tr = some e.ver)

variable {hc} {k}

theorem coh_some {tr : Option Nat} {s : HState σ} {r : Rec} :
    Coh hc k tr s (some r) ↔ tr = some r.ver ∧ r.loc ≠ .inMem ∧ (Clean hc r → Kview hc k s (fun e => e.ver = r.ver)) :=
  Iff.rfl

theorem coh_none {tr : Option Nat} {s : HState σ} : Coh hc k tr s none ↔ Kview hc k s (fun e => tr = some e.ver) :=
  Iff.rfl

theorem coh_of_view {tr : Option Nat} {s s' : HState σ} {m : Option Rec} (hkv : ∀ Q, Kview hc k s Q → Kview hc k s' Q)
    (h : Coh hc k tr s m) : Coh hc k tr s' m := by
  cases m with
  | none => exact hkv _ h
  | some r => exact ⟨h.1, h.2.1, fun hcl => hkv _ (h.2.2 hcl)⟩

/- `Coh` is applied to `Cache.lookup … k` of states built by `memOp`; left reducible, unification tries to evaluate
that lookup to decide the match (slow).  `coh_some` / `coh_none` / `coh_of_view` are the interface; the later files (C01Reopen, C15Flush)
inherit the barrier on purpose. -/
attribute [irreducible] Coh

variable (hc) (k)

/-- the invariant of the header of this file (`coh`: see `Coh`) -/
structure HInv (tr : Option Nat) (s : HState σ) : Prop where
  cinv : CacheInv P Ok hc.mcfg s.mem
  ds : DS hc k s
  coh : Coh hc k tr s (Cache.lookup hc.mcfg s.mem k)

/-- `HInv` and what holds between API calls: flusher drained, keeper empty, no handle out -/
structure HB (tr : Option Nat) (s : HState σ) : Prop extends HInv P hc Ok k tr s where
  idle : s.queue = []
  nokeeper : s.keeper = []
  nohandle : s.mem.held = []

/-- `r` is the handle the insert returns -/
structure Inserted (s : HState σ) (key ver : Nat) (ph : Bool) (loc : Loc) (age : Age) (r : Rec) : Prop where
  ret : (memOp P hc s (.ins key ver 1 .normal ph loc age)).2.ret = .handle r
  key_eq : r.key = key
  ver_eq : r.ver = ver
  loc_eq : r.loc = loc
  age_eq : r.age = age
  phantom_eq : r.phantom = ph
  hash_eq : r.hash = hc.mcfg.H key

variable {P} {hc} {Ok} {k}

theorem Inserted.cret {s : HState σ} {key ver : Nat} {ph : Bool} {loc : Loc} {age : Age} {r : Rec}
    (i : Inserted P hc s key ver ph loc age r) :
    (Cache.step P hc.mcfg s.mem (.ins key ver 1 .normal ph loc age)).2.ret = .handle r := by
  rw [← memOp_out]
  exact i.ret

include L hn in
theorem memOp_ins_inserted {s : HState σ} (hci : CacheInv P Ok hc.mcfg s.mem) (key ver : Nat) (ph : Bool) (loc : Loc)
    (age : Age) : ∃ r, Inserted P hc s key ver ph loc age r := by
  obtain ⟨r, hr⟩ := ins_returns_handle L hn hci key ver 1 .normal ph loc age
  obtain ⟨hrk, hrv, hrl, hra, hrp, hrh, -⟩ := ins_handle_fields hr
  exact ⟨r, by rw [memOp_out]; exact hr, hrk, hrv, hrl, hra, hrp, hrh⟩

include L hn in
/-- **A memory operation that does not write `k`**, given that whatever it pipes under key `k` is the record
memory held.  If it evicts `k`'s record: a clean record is already what the disk tier shows; any other one is
handed to the pipe within the same operation and becomes what the disk tier shows. -/
theorem hinv_memOp {tr : Option Nat} {s : HState σ} (h : HInv P hc Ok k tr s) (op : Op) (hq : quietFor k op)
    (hp1 : ∀ x ∈ (Cache.step P hc.mcfg s.mem op).2.piped, x.key = k → Cache.lookup hc.mcfg s.mem k = some x) :
    HInv P hc Ok k tr (memOp P hc s op).1 := by
  have hl := lookup_step_quiet L hn h.cinv hq
  have hdsb := ds_setMem h.ds (Cache.step P hc.mcfg s.mem op).1
  have hcoh := h.coh
  obtain ⟨hci', hds'⟩ := cinv_ds_memOp L hn h.cinv h.ds op
  refine ⟨hci', hds', ?_⟩
  rw [memOp_mem, memOp_eq]
  cases hcur : Cache.lookup hc.mcfg s.mem k with
  | none =>
    rw [hcur] at hcoh hl
    have hv := (coh_none).mp hcoh
    -- memory did not hold `k`: both cases of `hl` say it still does not
    rw [hl.elim id id, coh_none]
    apply kview_pipe_other _ hdsb hv
    intro x hx hxk
    have := hp1 x hx hxk
    rw [hcur] at this; cases this
  | some r =>
    rw [hcur] at hcoh hl
    obtain ⟨hM, hN, hY⟩ := (coh_some).mp hcoh
    have hrh := (lookup_hash h.cinv hcur).1
    have hlist : ∀ x ∈ (Cache.step P hc.mcfg s.mem op).2.piped, x.key = k → x = r := by
      intro x hx hxk
      have := hp1 x hx hxk
      rw [hcur] at this; cases this; rfl
    have hYa : Clean hc r → Kview hc k ((Cache.step P hc.mcfg s.mem op).2.piped.foldl (pipeSend hc)
        { s with mem := (Cache.step P hc.mcfg s.mem op).1 }) (fun e => e.ver = r.ver) := fun hcl =>
      kview_mono (fun _ h1 => h1.elim id id) (kview_pipe hrh hlist hdsb (hY hcl))
    rcases hl with hfin | hfin <;> rw [hfin]
    · rw [coh_none]
      have hver : Kview hc k ((Cache.step P hc.mcfg s.mem op).2.piped.foldl (pipeSend hc)
          { s with mem := (Cache.step P hc.mcfg s.mem op).1 }) (fun e => e.ver = r.ver) := by
        by_cases hcl : Clean hc r
        · exact hYa hcl
        · have he : hc.woi = false := by
            cases hw : hc.woi with
            | true => exact absurd (Or.inl hw) hcl
            | false => rfl
          exact kview_pipe_sent he hrh hlist hdsb
            (evicted_is_piped L hn h.cinv k op hq r hcur hfin) (lookup_key hcur)
            (fun hy => hcl (Or.inr hy)) hN
      intro e he' hke
      rw [hM, hver e he' hke]
    · exact (coh_some).mpr ⟨hM, hN, hYa⟩

include L hn in
theorem hinv_memOp_nodrop {tr : Option Nat} {s : HState σ} (h : HInv P hc Ok k tr s) (op : Op)
    (hq : quietFor k op) (hnd : op.isDrop = false) : HInv P hc Ok k tr (memOp P hc s op).1 := by
  apply hinv_memOp L hn h op hq
  intro x hx hxk
  have := piped_is_lookup L h.cinv op hnd x hx
  rw [hxk] at this; exact this

include L hn in
theorem hinv_drop {tr : Option Nat} {s : HState σ} (h : HInv P hc Ok k tr s) (r : Rec)
    (hheld : s.mem.held = [(r, 1)]) (hr : r.phantom = true → r.key ≠ k) :
    HInv P hc Ok k tr (memOp P hc s (.drop r.id)).1 ∧ (memOp P hc s (.drop r.id)).1.mem.held = [] := by
  refine ⟨?_, memOp_held_drop hheld⟩
  apply hinv_memOp L hn h (.drop r.id) (by simp only [quietFor])
  intro x hx hxk
  rw [(held_drop P hc.mcfg hheld).2] at hx
  split at hx
  · rename_i hp
    simp only [List.mem_singleton] at hx
    subst hx
    exact absurd hxk (hr hp)
  · cases hx

theorem hinv_of_view {tr : Option Nat} {s s' : HState σ} (h : HInv P hc Ok k tr s) (hm : s'.mem = s.mem)
    (hds : DS hc k s') (hkv : ∀ Q, Kview hc k s Q → Kview hc k s' Q) : HInv P hc Ok k tr s' :=
  ⟨by rw [hm]; exact h.cinv, hds, by rw [hm]; exact coh_of_view hkv h.coh⟩

theorem hinv_submit_other {tr : Option Nat} {s : HState σ} (h : HInv P hc Ok k tr s) (r : Rec) (hk : r.key ≠ k) :
    HInv P hc Ok k tr (submit s r) :=
  hinv_of_view h (submit_mem s r) (ds_submit h.ds r) (fun _ => kview_submit_other h.ds r hk)

theorem hb_flush {tr : Option Nat} {s : HState σ} (h : HInv P hc Ok k tr s) (hh : s.mem.held = []) :
    HB P hc Ok k tr (flush hc s) :=
  ⟨hinv_of_view h (flush_mem hc s) (ds_flush h.ds)
    (fun Q hQ e he' hke => hQ e (flush_of_qf_pview hc h.ds.qf _ ▸ he') hke),
   flush_of_qf_queue hc h.ds.qf, flush_of_qf_keeper hc h.ds.qf, by rw [flush_mem]; exact hh⟩

/-- **`Store::delete`**: the hash of the key loses its index entry.  For `key = k` nothing is asked of the disk
view before: memory has just let go of `k`, the disk tier may be stale. -/
theorem hinv_delete {tr : Option Nat} {s : HState σ} (hci : CacheInv P Ok hc.mcfg s.mem) (hds : DS hc k s) (key : Nat)
    (hcoh : if key = k then Cache.lookup hc.mcfg s.mem k = none else Coh hc k tr s (Cache.lookup hc.mcfg s.mem k)) :
    HInv P hc Ok k (if key = k then none else tr) (delete hc s key) := by
  obtain ⟨hpv, hsq⟩ := pview_delete hc s key (hc.mcfg.H k) hds.seqok
  refine ⟨hci, .of_qf (qf_delete hc hds.qf key) hsq, ?_⟩
  rw [delete_mem]
  split at hcoh
  · rename_i hkk
    rw [hcoh, coh_none]
    intro e he' _
    rw [hpv, hkk, if_pos rfl] at he'
    cases he'
  · rename_i hkk
    rw [if_neg hkk]
    exact coh_of_view (fun _ => kview_of_erase hpv) hcoh

include L hn in
/-- **insert, submit if asked, drop the handle** — every insert path of the hybrid cache under either policy.
A record of `k` reaches the disk tier at the `submit` (write-on-insertion) or, if it is disk-only, when its
handle is dropped (write-on-eviction); an ordinary record under write-on-eviction stays in memory only.
`hc1`: under write-on-insertion every record is `Clean`, so a record of `k` has to be submitted here. -/
theorem hinv_put {tr : Option Nat} {s : HState σ} (h : HInv P hc Ok k tr s) (hheld : s.mem.held = [])
    (key ver : Nat) (ph : Bool) (loc : Loc) (c : Bool) (hloc : key = k → loc ≠ .inMem)
    (hc1 : key = k → hc.woi = true → c = true) :
    HInv P hc Ok k (if key = k then some ver else tr) (putSeq P hc s key ver ph loc .fresh c) ∧
    (putSeq P hc s key ver ph loc .fresh c).mem.held = [] := by
  obtain ⟨r, i⟩ := memOp_ins_inserted L hn h.cinv key ver ph loc .fresh
  rw [putSeq_handle P hc c i.ret]
  have hheld1 : (submitIf c (memOp P hc s (.ins key ver 1 .normal ph loc .fresh)).1 r).mem.held = [(r, 1)] := by
    rw [submitIf_mem]; exact memOp_held_ins hheld i.ret
  have hy : r.age ≠ .young := by rw [i.age_eq]; decide
  by_cases hkk : key = k
  · subst hkk
    rw [if_pos rfl]
    have hmem := memOp_mem P hc s (.ins key ver 1 .normal ph loc .fresh)
    obtain ⟨hci0, hds1⟩ := cinv_ds_memOp L hn h.cinv h.ds (.ins key ver 1 .normal ph loc .fresh)
    have hci1 : CacheInv P Ok hc.mcfg (submitIf c (memOp P hc s (.ins key ver 1 .normal ph loc .fresh)).1 r).mem := by
      rw [submitIf_mem]; exact hci0
    have hds2 := ds_submitIf hds1 c r
    -- under write-on-insertion the record has just been submitted
    have hsub : hc.woi = true → Kview hc key (submitIf c (memOp P hc s (.ins key ver 1 .normal ph loc .fresh)).1 r)
        (fun e => e.ver = r.ver) := by
      intro hw
      rw [submitIf, hc1 rfl hw, if_pos rfl]
      exact kview_submit_self hds1 r i.hash_eq hy
    cases ph with
    | false =>
      apply hinv_drop L hn ⟨hci1, hds2, ?_⟩ r hheld1 (by intro hp; rw [i.phantom_eq] at hp; cases hp)
      rw [submitIf_mem, hmem, lookup_after_ins hn h.cinv i.cret,
        coh_some]
      exact ⟨by rw [i.ver_eq], by rw [i.loc_eq]; exact hloc rfl, fun hcl => hsub (hcl.resolve_right hy)⟩
    | true =>
      -- memory lets go of `k`; the record reaches the pipe when its handle is dropped
      have hl1 : Cache.lookup hc.mcfg (submitIf c (memOp P hc s (.ins key ver 1 .normal true loc .fresh)).1 r).mem key = none := by
        rw [submitIf_mem, hmem]
        exact lookup_ins_phantom L hn h.cinv key ver 1 .normal loc .fresh
      generalize submitIf c (memOp P hc s (.ins key ver 1 .normal true loc .fresh)).1 r = s2 at *
      obtain ⟨hci3, hds3⟩ := cinv_ds_memOp L hn hci1 hds2 (.drop r.id)
      have hpiped := (held_drop P hc.mcfg hheld1).2
      rw [i.phantom_eq, if_pos rfl] at hpiped
      have heq : (memOp P hc s2 (.drop r.id)).1 =
          pipeSend hc ({ s2 with mem := (Cache.step P hc.mcfg s2.mem (.drop r.id)).1 } : HState σ) r := by
        rw [memOp_eq, hpiped]; rfl
      refine ⟨⟨hci3, hds3, ?_⟩, memOp_held_drop hheld1⟩
      rw [memOp_mem, lookup_none_step_quiet L hn hci1 (by simp only [quietFor]) hl1, coh_none, heq]
      intro e he' hke
      rw [← i.ver_eq]
      cases hw : hc.woi with
      | true => rw [woi_eviction_writes_nothing hc hw] at he'; exact congrArg some (hsub hw e he' hke).symm
      | false =>
        rw [pipeSend_woe hc hw, if_neg (by rw [i.loc_eq]; exact hloc rfl)] at he'
        exact congrArg some (kview_submit_self (ds_setMem hds2 _) r i.hash_eq hy e he' hke).symm
  · rw [if_neg hkk]
    have h1 := hinv_memOp_nodrop L hn h (.ins key ver 1 .normal ph loc .fresh) hkk rfl
    have hrk' : r.key ≠ k := by rw [i.key_eq]; exact hkk
    apply hinv_drop L hn _ r hheld1 (fun _ => hrk')
    unfold submitIf
    split
    · exact hinv_submit_other h1 r hrk'
    · exact h1

include L hn in
/-- **population of memory from the disk tier**: the record is young, so it must be what the disk tier shows -/
theorem hinv_populate {tr : Option Nat} {s : HState σ} (h : HInv P hc Ok k tr s) (hheld : s.mem.held = [])
    (key v : Nat)
    (hk : key = k → Cache.lookup hc.mcfg s.mem k = none ∧ tr = some v ∧ Kview hc k s (fun e => e.ver = v)) :
    HInv P hc Ok k tr (putSeq P hc s key v false .default .young false) ∧
    (putSeq P hc s key v false .default .young false).mem.held = [] := by
  obtain ⟨r, i⟩ := memOp_ins_inserted L hn h.cinv key v false .default .young
  rw [putSeq_handle P hc false i.ret, submitIf_false]
  have hheld1 := memOp_held_ins hheld i.ret
  apply hinv_drop L hn _ r hheld1 (by intro hp; rw [i.phantom_eq] at hp; cases hp)
  by_cases hkk : key = k
  · subst hkk
    obtain ⟨hnone, htr, hv⟩ := hk rfl
    have hno : ∀ x ∈ (Cache.step P hc.mcfg s.mem (.ins key v 1 .normal false .default .young)).2.piped, x.key ≠ key := by
      intro x hx hxk
      have := piped_is_lookup L h.cinv _ rfl x hx
      rw [hxk, hnone] at this; cases this
    obtain ⟨hci', hds'⟩ := cinv_ds_memOp L hn h.cinv h.ds (.ins key v 1 .normal false .default .young)
    refine ⟨hci', hds', ?_⟩
    rw [memOp_mem, lookup_after_ins hn h.cinv i.cret,
      memOp_eq, coh_some]
    refine ⟨by rw [i.ver_eq]; exact htr, by rw [i.loc_eq]; decide, fun _ => ?_⟩
    rw [i.ver_eq]
    exact kview_pipe_other hno (ds_setMem h.ds _) hv
  · exact hinv_memOp_nodrop L hn h (.ins key v 1 .normal false .default .young) hkk rfl

include L hn in
/-- **the lookup path**: memory answers the register value; without `k` in memory the index shows it -/
theorem hinv_get {tr : Option Nat} {s : HState σ} (hb : HB P hc Ok k tr s) (key : Nat) :
    HInv P hc Ok k tr (getSeq P hc s key).1 ∧ (getSeq P hc s key).1.mem.held = [] ∧
    (key = k → ∀ v src, (getSeq P hc s key).2 = some (v, src) → tr = some v) := by
  obtain ⟨h, hq, hkp, hheld⟩ := hb
  cases hl : Cache.lookup hc.mcfg s.mem key with
  | some r =>
    rw [getSeq_hit P hc hl]
    have h1 := hinv_memOp_nodrop L hn h (.get key) (by simp only [quietFor]) rfl
    have hd := hinv_drop L hn h1 r (by rw [memOp_mem, (step_get_hit P hl).held, hheld]; rfl)
      (by intro hp; rw [(lookup_hash h.cinv hl).2] at hp; cases hp)
    refine ⟨hd.1, hd.2, ?_⟩
    intro hkk v src hv
    subst hkk
    have hcoh := h.coh
    rw [hl, coh_some] at hcoh
    simp only [Option.some.injEq, Prod.mk.injEq] at hv
    rw [← hv.1]; exact hcoh.1
  | none =>
    rw [getSeq_miss P hc hl, loadAndPopulate_eq, hkp, assocGet_nil]
    dsimp only
    cases hix : indexAddr s.index (hc.mcfg.H key) with
    | none => exact ⟨h, hheld, fun _ _ _ hx => (by cases hx)⟩
    | some e =>
      simp only
      by_cases hek : e.key = key
      · rw [if_pos hek]
        have hfacts : key = k → Cache.lookup hc.mcfg s.mem k = none ∧ tr = some e.ver ∧ Kview hc k s (fun e' => e'.ver = e.ver) := by
          intro hkk
          subst hkk
          have hpv : pview hc s (hc.mcfg.H key) = some (.addr e) := by
            rw [pview_idle hc s _ hq]; exact indexAddr_eq_some.mp hix
          have hcoh := h.coh
          rw [hl, coh_none] at hcoh
          exact ⟨hl, hcoh e hpv hek, fun e' he' _ => by rw [hpv] at he'; cases he'; rfl⟩
        have hp := hinv_populate L hn h hheld key e.ver hfacts
        refine ⟨hp.1, hp.2, ?_⟩
        intro hkk v src hx
        simp only [Option.some.injEq, Prod.mk.injEq] at hx
        rw [← hx.1]; exact (hfacts hkk).2.1
      · rw [if_neg hek]
        exact ⟨h, hheld, fun _ _ _ hx => (by cases hx)⟩

include L hn in
theorem hinv_rm {tr : Option Nat} {s : HState σ} (h : HInv P hc Ok k tr s) (hheld : s.mem.held = []) (key : Nat) :
    HInv P hc Ok k (if key = k then none else tr) (delete hc (rmSeq P hc s key) key) ∧
    (delete hc (rmSeq P hc s key) key).mem.held = [] := by
  cases hl : Cache.lookup hc.mcfg s.mem key with
  | none =>
    rw [rmSeq_miss P hc hl]
    refine ⟨hinv_delete h.cinv h.ds key ?_, by rw [delete_mem]; exact hheld⟩
    split
    · rename_i hkk; rw [← hkk]; exact hl
    · exact h.coh
  | some r =>
    rw [rmSeq_hit P hc hl]
    have hmem := memOp_mem P hc s (.remove key)
    have hheld1 : (memOp P hc s (.remove key)).1.mem.held = [(r, 1)] := by
      rw [hmem, (step_remove_hit P hl).held, hheld]; rfl
    obtain ⟨hci1, hds1⟩ := cinv_ds_memOp L hn h.cinv h.ds (.remove key)
    obtain ⟨hci2, hds2⟩ := cinv_ds_memOp L hn hci1 hds1 (.drop r.id)
    refine ⟨hinv_delete hci2 hds2 key ?_, by rw [delete_mem]; exact memOp_held_drop hheld1⟩
    split
    · -- `k` itself is removed: memory lets go of it, the disk view may be stale until the delete below
      rename_i hkk
      subst hkk
      have hl1 : Cache.lookup hc.mcfg (memOp P hc s (.remove key)).1.mem key = none := by
        rw [hmem]
        exact lookup_step_kill L hn h.cinv (by intro _ _; simp only [regStep, if_true])
      rw [memOp_mem]
      exact lookup_none_step_quiet L hn hci1 (by simp only [quietFor]) hl1
    · rename_i hkk
      have h1 := hinv_memOp_nodrop L hn h (.remove key) hkk rfl
      have h5 := hinv_drop L hn h1 r hheld1 (fun _ => by rw [lookup_key hl]; exact hkk)
      exact h5.1.coh

include L hn in
/-- **`clear`**: memory lets go of everything, index and device are wiped, the register is empty -/
theorem hinv_clear {tr : Option Nat} {s : HState σ} (h : HInv P hc Ok k tr s) (hheld : s.mem.held = []) :
    HInv P hc Ok k none ({ flush hc (clearQ (memOp P hc s .clear).1) with index := [], disk := [] } : HState σ) ∧
    (flush hc (clearQ (memOp P hc s .clear).1)).mem.held = [] := by
  obtain ⟨hci1, hds1⟩ := cinv_ds_memOp L hn h.cinv h.ds .clear
  have hl1 : Cache.lookup hc.mcfg (memOp P hc s .clear).1.mem k = none := by
    rw [memOp_mem]
    exact lookup_step_kill L hn h.cinv (by intro _ _; simp only [regStep])
  have hheld1 : (memOp P hc s .clear).1.mem.held = [] := by rw [memOp_mem, held_clear]; exact hheld
  generalize (memOp P hc s .clear).1 = s1 at hci1 hds1 hl1 hheld1
  have q2 := qf_flush hc (qf_clearQ hds1.qf)
  have fq := flush_of_qf_queue hc (qf_clearQ hds1.qf)
  have hmem : (flush hc (clearQ s1)).mem = s1.mem := flush_mem hc _
  refine ⟨⟨by rw [hmem]; exact hci1, .of_qf ⟨q2.hh, q2.hg, q2.hi, q2.kq⟩ ?_, ?_⟩, by rw [hmem]; exact hheld1⟩
  · rw [fq]
    exact batchLt_nil (seqLt_none _)
  · show Coh hc k none _ (Cache.lookup hc.mcfg (flush hc (clearQ s1)).mem k)
    rw [hmem, hl1, coh_none]
    intro e he' _
    unfold pview at he'
    simp only at he'
    rw [fq] at he'
    cases he'

theorem hinv_lost {tr : Option Nat} {s : HState σ} (h : HInv P hc Ok k tr s) (hq : s.queue = []) (h' : Nat) (e : DiskEnt) :
    HInv P hc Ok k tr (lost s h' e) := by
  obtain ⟨hpv, hsq⟩ := pview_lost hc s hq h' e (hc.mcfg.H k) h.ds.seqok
  exact hinv_of_view h rfl ⟨h.ds.hh, h.ds.hg, h.ds.hi, h.ds.kq, hsq⟩ (fun _ => kview_of_erase hpv)

theorem hinv_big {tr : Option Nat} {s : HState σ} (h : HInv P hc Ok k tr s) (b : List Nat) :
    HInv P hc Ok k tr { s with big := b } :=
  hinv_of_view h rfl ⟨h.ds.hh, h.ds.hg, h.ds.hi, h.ds.kq, h.ds.seqok⟩ (fun _ hQ => hQ)

theorem truthStep_fetch_val (k : Nat) (tr : Option Nat) (key ov v : Nat) (src : String) :
    truthStep k tr (.fetch key ov) (.val key v src) = (if key = k then some v else tr) := rfl

theorem readOk_fetch_val {k : Nat} {tr : Option Nat} {key ov v : Nat} (src : String)
    (hv : key = k → tr = some v ∨ v = ov) : readOk k tr (.fetch key ov) (.val key v src) := by
  refine fun hkk => ⟨⟨v, src, by rw [hkk]⟩, fun key' v' src' h' => ?_⟩
  simp only [HRet.val.injEq] at h'
  rw [← h'.1, ← h'.2.1]
  exact ⟨hkk, hv hkk⟩

include L hn in
theorem hinv_stepCore {tr : Option Nat} {s : HState σ} (hb : HB P hc Ok k tr s) (op : HOp) (hok : okOp k op) :
    HInv P hc Ok k (truthStep k tr op (stepCore P hc s op).2) (stepCore P hc s op).1 ∧
    (stepCore P hc s op).1.mem.held = [] ∧ readOk k tr op (stepCore P hc s op).2 := by
  cases op with
  | ins key ver loc big =>
    rw [stepCore_ins]
    simp only [truthStep, readOk, and_true]
    have h0 : HInv P hc Ok k tr (if big = true then ({ s with big := ver :: s.big } : HState σ) else s) ∧
        (if big = true then ({ s with big := ver :: s.big } : HState σ) else s).mem.held = [] := by
      split
      · exact ⟨hinv_big hb.toHInv _, hb.nohandle⟩
      · exact ⟨hb.toHInv, hb.nohandle⟩
    exact hinv_put L hn h0.1 h0.2 key ver _ loc _ hok
      (fun hkk hw => by rw [hw]; simp only [Bool.true_and, decide_eq_true_eq]; exact hok hkk)
  | wins key ver f =>
    rw [stepCore_wins]
    simp only [truthStep, readOk, and_true]
    exact hinv_put L hn hb.toHInv hb.nohandle key ver true .default hc.woi (fun _ => by decide) (fun _ hw => hw)
  | rm key =>
    rw [stepCore_rm]
    simp only [truthStep, readOk, and_true]
    exact hinv_rm L hn hb.toHInv hb.nohandle key
  | clear =>
    rw [stepCore_clear]
    simp only [truthStep, readOk, and_true]
    exact hinv_clear L hn hb.toHInv hb.nohandle
  | get key =>
    rw [stepCore_get]
    obtain ⟨g1, g2, g3⟩ := hinv_get L hn hb key
    refine ⟨g1, g2, ?_⟩
    simp only [readOk]
    intro hkk key' v src hv
    cases hg : (getSeq P hc s key).2 with
    | none => rw [hg] at hv; cases hv
    | some vs =>
      obtain ⟨v0, src0⟩ := vs
      rw [hg] at hv
      simp only [HRet.ofLoad, HRet.val.injEq] at hv
      exact ⟨by rw [← hv.1]; exact hkk, by rw [← hv.2.1]; exact g3 hkk v0 src0 hg⟩
  | fetch key ov =>
    rw [stepCore_fetch]
    obtain ⟨g1, g2, g3⟩ := hinv_get L hn hb key
    cases hg : (getSeq P hc s key).2 with
    | some vs =>
      obtain ⟨v, src⟩ := vs
      dsimp only
      rw [truthStep_fetch_val]
      refine ⟨?_, g2, readOk_fetch_val src (fun hkk => Or.inl (g3 hkk v src hg))⟩
      split
      · rename_i hkk; rw [← g3 hkk v src hg]; exact g1
      · exact g1
    | none =>
      -- memory missed and the disk lookup missed (and changed nothing): the origin value is written
      dsimp only
      rw [getSeq_none P hc hg]
      obtain ⟨r, i⟩ := memOp_ins_inserted L hn hb.cinv key ov false .default .fresh
      have hp := hinv_put L hn hb.toHInv hb.nohandle key ov false .default hc.woi (fun _ => by decide) (fun _ hw => hw)
      rw [i.ret, HRet.ofIns_handle, truthStep_fetch_val]
      exact ⟨hp.1, hp.2, readOk_fetch_val "outer" (fun _ => Or.inr rfl)⟩
  | evict =>
    rw [stepCore_evict]
    simp only [readOk, truthStep, and_true]
    exact ⟨hinv_memOp_nodrop L hn hb.toHInv .evictAll (by simp only [quietFor]) rfl,
      by rw [memOp_mem, held_evictAll]; exact hb.nohandle⟩
  | contains key => rw [stepCore_contains]; simp only [readOk, truthStep, and_true]; exact ⟨hb.toHInv, hb.nohandle⟩
  | wait => rw [stepCore_wait]; simp only [readOk, truthStep, and_true]; exact ⟨hb.toHInv, hb.nohandle⟩
  | lose h' =>
    rw [stepCore_lose]
    simp only [readOk, truthStep, and_true]
    split
    · exact ⟨hb.toHInv, hb.nohandle⟩
    · exact ⟨hinv_lost hb.toHInv hb.idle h' _, hb.nohandle⟩
  | hold => exact hok.elim
  | unhold => exact hok.elim
  | gate => exact hok.elim
  | releaseAll => exact hok.elim
  | releaseBatch => exact hok.elim
  | reopen => exact hok.elim

include L hn in
theorem hb_step {tr : Option Nat} {s : HState σ} (hb : HB P hc Ok k tr s) (op : HOp) (hok : okOp k op) :
    HB P hc Ok k (truthStep k tr op (step P hc s op).2) (step P hc s op).1 ∧ readOk k tr op (step P hc s op).2 := by
  obtain ⟨h1, h2, h3⟩ := hinv_stepCore L hn hb op hok
  exact ⟨hb_flush h1 h2, h3⟩

omit k in
theorem readsOk_of_inv {k : Nat} {Inv : Option Nat → HState σ → Prop} {ok : HOp → Prop}
    (hstep : ∀ tr s op, Inv tr s → ok op →
      Inv (truthStep k tr op (step P hc s op).2) (step P hc s op).1 ∧ readOk k tr op (step P hc s op).2) :
    ∀ (ops : List HOp) (tr : Option Nat) (s : HState σ), Inv tr s → (∀ op ∈ ops, ok op) → readsOk P hc k tr s ops := by
  intro ops
  induction ops with
  | nil => intro _ _ _ _; trivial
  | cons op ops ih =>
    intro tr s h hok
    obtain ⟨h1, h2⟩ := hstep tr s op h (hok op List.mem_cons_self)
    exact ⟨h2, ih _ _ h1 (fun o ho => hok o (List.mem_cons_of_mem _ ho))⟩

include L in
theorem hb_init (memcap : Nat) : HB P hc Ok k none (init P hc memcap) where
  cinv := new_inv L hc.mcfg memcap
  ds := { hh := rfl, hg := rfl, hi := rfl, seqok := batchLt_nil (seqLt_none _), kq := fun p hp => by cases hp }
  coh := by
    show Coh hc k none _ (Cache.lookup hc.mcfg (Cache.new P hc.mcfg memcap) k)
    rw [lookup_new, coh_none]
    intro e he' _
    cases he'
  idle := rfl
  nokeeper := rfl
  nohandle := rfl

variable (P) (hc) (Ok) (k)

include L hn in
/-- **C01, either write policy: reads observe the latest write, whatever the history.** -/
theorem reads_truth (memcap : Nat) (ops : List HOp) (hok : ∀ op ∈ ops, okOp k op) :
    readsOk P hc k none (init P hc memcap) ops :=
  readsOk_of_inv (Inv := HB P hc Ok k) (fun _ _ op hb hop => hb_step L hn hb op hop) ops none _
    (hb_init L memcap) hok

end

section
variable {σ : Type} (P : Policy σ) (hc : HCfg) (Ok : σ → Prop) (L : Lawful P Ok) (hn : 0 < hc.mcfg.nshards)
  (hw : hc.woi = true) (k : Nat)

include L hn hw in
/-- **C01 (write-on-insertion): reads observe the latest write, whatever the history.** -/
theorem woi_reads_truth (memcap : Nat) (ops : List HOp) (hok : ∀ op ∈ ops, okOp k op) :
    readsOk P hc k none (init P hc memcap) ops :=
  reads_truth P hc Ok L hn k memcap ops hok

end
end Foyer.Hyb

/-! ### Non-vacuity: the theorem instantiated on a concrete history with a collision, an overwrite, an
oversize update, a memory eviction, a disk-capacity eviction and a remove. -/
namespace Foyer.Hyb.Demo
open Foyer Foyer.Hyb

/-- one shard, every key hashes to `k % 2`: keys 0 and 2 collide -/
def hcfg : HCfg := { woi := true, foc := false, tombLog := true, mcfg := { nshards := 1, H := fun k => k % 2 } }

def ops : List HOp :=
  [.ins 0 1 .default false, .ins 2 2 .default false, .get 0, .ins 0 3 .onDisk false, .evict, .get 0,
   .ins 0 4 .default true, .get 0, .fetch 0 5, .lose 0, .get 0, .rm 0, .fetch 0 6, .clear, .get 0]

example : ∀ op ∈ ops, okOp 0 op := by decide

/-- what the calls answered along this history (computed by the model) -/
def rets : HState Fifo → List HOp → List HRet
  | _, [] => []
  | s, op :: ops => (step fifoPolicy hcfg s op).2 :: rets (step fifoPolicy hcfg s op).1 ops

example : readsOk fifoPolicy hcfg 0 none (init fifoPolicy hcfg 4) ops :=
  woi_reads_truth fifoPolicy hcfg _ fifo_lawful (by decide) rfl 0 4 ops (by decide)

end Foyer.Hyb.Demo
