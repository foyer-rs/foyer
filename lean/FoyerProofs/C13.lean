import FoyerProofs.Lemmas.Conservation
import FoyerProofs.Lemmas.LawfulFifo
/-
  C13 — Each entry leaves memory exactly once, with the right reason and disk hand-off.

  For an arbitrary lawful eviction policy, hasher, shard count and every operation sequence
  (insert, replace, remove, get/hold/drop, clear, resize, evict_all, flush).
-/
namespace Foyer.C13

variable {σ : Type} {P : Policy σ} {Ok : σ → Prop}

theorem conservation_from (L : Lawful P Ok) {cfg : Cfg} (hn : 0 < cfg.nshards) :
    ∀ (ops : List Op) (c : Cache σ), CacheInv P Ok cfg c →
      (Cache.admittedAll ops (Cache.run P cfg c ops).2 ++ c.findable).Perm
        ((Cache.run P cfg c ops).1.findable ++ Cache.leftAll (Cache.run P cfg c ops).2) := by
  intro ops
  induction ops with
  | nil => intro c _; simp [Cache.run, Cache.admittedAll, Cache.leftAll]
  | cons op ops ih =>
    intro c hc
    have h1 := step_conservation L hc op
    have h2 := ih _ (step_inv L hn hc op)
    rw [Cache.run_cons]
    simp only [Cache.admittedAll, Cache.leftAll, List.flatMap_cons] at h2 ⊢
    exact perm_seq h1 h2

/-- **conservation**: after any operation sequence on a fresh cache, the records admitted so far
are — as a multiset — exactly the records a lookup can still find plus the records that were
reported as having left.  Every notification is counted with its multiplicity. -/
theorem conservation (L : Lawful P Ok) (cfg : Cfg) (hn : 0 < cfg.nshards) (cap : Nat) (ops : List Op) :
    let r := Cache.run P cfg (Cache.new P cfg cap) ops
    (Cache.admittedAll ops r.2).Perm (r.1.findable ++ Cache.leftAll r.2) := by
  have := conservation_from L hn ops _ (new_inv L cfg cap)
  rw [findable_new, List.append_nil] at this
  exact this

theorem step_nextId (P : Policy σ) (cfg : Cfg) (c : Cache σ) (op : Op) :
    c.nextId ≤ (Cache.step P cfg c op).1.nextId ∧
    ∀ r ∈ admittedOf op (Cache.step P cfg c op).2, r.id = c.nextId ∧ (Cache.step P cfg c op).1.nextId = c.nextId + 1 := by
  obtain ⟨F, A, sh⟩ := step_shape P cfg c op
  refine ⟨sh.nextId_le, fun r hr => ?_⟩
  rw [sh.admitted] at hr
  split at hr
  · cases hr
  · obtain ⟨j, hj, hx⟩ := List.mem_flatMap.mp hr
    have hs := List.getElem?_eq_getElem (List.mem_range.mp hj)
    exact ⟨((sh.move j _ hs).adm_spec r hx).1, sh.nextId_succ (List.ne_nil_of_mem hr)⟩

theorem admitted_ids (P : Policy σ) (cfg : Cfg) : ∀ (ops : List Op) (c : Cache σ),
    (∀ r ∈ Cache.admittedAll ops (Cache.run P cfg c ops).2, c.nextId ≤ r.id) ∧
    idsNodup (Cache.admittedAll ops (Cache.run P cfg c ops).2) := by
  intro ops
  induction ops with
  | nil => intro c; simp [Cache.admittedAll, idsNodup]
  | cons op ops ih =>
    intro c
    have hs := step_nextId P cfg c op
    have hr := ih (Cache.step P cfg c op).1
    rw [Cache.run_cons]
    simp only [Cache.admittedAll]
    constructor
    · intro r hr'
      rcases List.mem_append.mp hr' with h | h
      · rw [(hs.2 r h).1]; exact Nat.le_refl _
      · exact Nat.le_trans hs.1 (hr.1 r h)
    · rw [idsNodup_append]
      refine ⟨?_, hr.2, ?_⟩
      · -- at most one record is admitted per step
        unfold admittedOf
        split
        · split <;> simp [idsNodup]
        · simp [idsNodup]
      · intro x hx y hy
        have h1 := hs.2 x hx
        have h2 := hr.1 y hy
        omega

/-- **exactly once**: no record is reported as having left twice, a record that was reported is
not findable any more, and every admitted record is either still findable or was reported. -/
theorem exactly_once (L : Lawful P Ok) (cfg : Cfg) (hn : 0 < cfg.nshards) (cap : Nat) (ops : List Op) :
    let r := Cache.run P cfg (Cache.new P cfg cap) ops
    (Cache.leftAll r.2).Nodup ∧
    (∀ x ∈ Cache.leftAll r.2, x ∉ r.1.findable) ∧
    (∀ x ∈ Cache.admittedAll ops r.2, x ∈ r.1.findable ∨ x ∈ Cache.leftAll r.2) ∧
    (∀ x ∈ Cache.leftAll r.2, x ∈ Cache.admittedAll ops r.2) := by
  have hp := conservation L cfg hn cap ops
  have hid := (admitted_ids P cfg ops (Cache.new P cfg cap)).2
  dsimp only at hp ⊢
  have hnd2 := hp.nodup_iff.mp (nodup_of_idsNodup hid)
  rw [List.nodup_append] at hnd2
  refine ⟨hnd2.2.1, ?_, ?_, ?_⟩
  · intro x hx hf
    exact hnd2.2.2 x hf x hx rfl
  · intro x hx
    exact List.mem_append.mp (hp.mem_iff.mp hx)
  · intro x hx
    exact hp.mem_iff.mpr (List.mem_append.mpr (Or.inr hx))

/-- **hand-off iff evicted**: the disk tier is offered exactly the records whose notification says
`evict`, in the same order — for every operation, in every state. -/
theorem pipe_iff_evict (cfg : Cfg) (c : Cache σ) (op : Op) :
    (Cache.step P cfg c op).2.piped = evictedOf (Cache.step P cfg c op).2.leaves := by
  obtain ⟨F, A, sh⟩ := step_shape P cfg c op
  exact sh.piped

/-- **reason matches cause**: which notifications an operation can produce. -/
theorem reason_correct (cfg : Cfg) (c : Cache σ) (op : Op) :
    ∀ e r, (e, r) ∈ (Cache.step P cfg c op).2.leaves →
      match op with
      | .ins key _ _ _ phantom _ _ =>
          e = Reason.evict ∨ (e = Reason.replace ∧ r.key = key) ∨ (e = Reason.remove ∧ phantom = true ∧ r.phantom = true)
      | .remove key => e = Reason.remove ∧ r.key = key
      | .drop rid => e = Reason.evict ∧ r.phantom = true ∧ r.id = rid
      | .clear => e = Reason.clear
      | .resize _ => e = Reason.evict
      | .evictAll => e = Reason.evict
      | .flush => e = Reason.evict
      | _ => False := by
  obtain ⟨F, A, sh⟩ := step_shape P cfg c op
  intro e r h
  rcases sh.of_mem_leaves h with ⟨j, s, _, mv, h⟩ | ⟨rid, x, rfl, hf, hph, h⟩
  · generalize A j = adm, F j s = res at mv h
    cases mv with
    | emplace key ver weight hint phantom loc age =>
      exact (emplace_leaves h).imp_right (Or.imp_right fun ⟨h1, h2, h3⟩ => ⟨h1, h2, h3 ▸ h2⟩)
    | unlink _ hf =>
      simp only [List.mem_singleton, Prod.mk.injEq] at h
      obtain ⟨rfl, rfl⟩ := h
      exact ⟨rfl, (findKey_some hf).2⟩
    | clear => exact (mem_map_pair.mp h).1
    | evict t target hp =>
      have he := (mem_map_pair.mp h).1
      cases hp with
      | resize => exact he
      | all ho => rcases ho with rfl | rfl <;> exact he
    | _ => cases h
  · cases h
    exact ⟨rfl, hph, heldFind_id hf⟩

namespace Demo
def cfg : Cfg := { nshards := 2, H := fun k => k }
def ops : List Op := [.ins 0 1 1 .normal false, .ins 2 2 1 .normal false, .ins 4 3 2 .normal false, .remove 2, .clear]
/-- a run with an eviction, a replacement, a removal and a clear: 3 admitted, all 3 reported once -/
example : (Cache.admittedAll ops (Cache.run fifoPolicy cfg (Cache.new fifoPolicy cfg 6) ops).2).map (·.ver) = [1, 2, 3] := by decide
example : (Cache.leftAll (Cache.run fifoPolicy cfg (Cache.new fifoPolicy cfg 6) ops).2).map (·.ver) = [1, 2, 3] := by decide
example : (Cache.run fifoPolicy cfg (Cache.new fifoPolicy cfg 6) ops).2.map (fun o => o.leaves.map (·.1)) =
    [[], [], [.evict], [.remove], [.clear]] := by decide
end Demo

end Foyer.C13
