import FoyerProofs.C08
import FoyerProofs.C04  -- `scan_subset`, `recoverBlock_subset`: audited under this property (bin/props.py)
/-
  C03 — corrupted or misdirected disk bytes never surface as a cached value.  The load path of the model
  (`Foyer.Codec.decEntry`: header, range, checksum; then the caller's key comparison,
  `Foyer.Hyb.disk_lookup_own_key_or_miss`) for *arbitrary* bytes; recovery is C04's (`recoverBlock_subset`).
  The idealisation "XxHash64 tells the damaged payload from the stored one" is the hypothesis of
  `load_genuine_or_error`; the fault-injection campaign checks it on every injected fault.
-/
namespace Foyer.Codec

/-- **Whatever the device returned, a successful load yields exactly the bytes the header's checksum
covers**: the value and key are cut out of the bytes read, at the lengths the header states, and
their checksum is the stored one. -/
theorem decEntry_sound (cs : Bytes → Nat) (bs : Bytes) (h : Header) (v k : Bytes)
    (hd : decEntry cs bs = .ok (h, v, k)) :
    ∃ rest, decHeader bs = .ok (h, rest) ∧ h.valueLen + h.keyLen ≤ rest.length ∧
      cs (rest.take (h.valueLen + h.keyLen)) = h.checksum ∧
      v = rest.take h.valueLen ∧ k = (rest.drop h.valueLen).take h.keyLen := by
  unfold decEntry at hd
  split at hd
  · cases hd
  · rename_i h0 rest hh
    split at hd
    · cases hd
    · rename_i hlen
      split at hd
      · cases hd
      · rename_i hcs
        cases hd
        exact ⟨rest, hh, Nat.le_of_not_lt hlen, Decidable.of_not_not hcs, rfl, rfl⟩

/-- **A genuine header followed by the wrong bytes is rejected** (or, if the bytes are the stored
ones, yields exactly the stored value and key) — provided the checksum function tells the damaged
payload from the stored one. -/
theorem load_genuine_or_error (cs : Bytes → Nat) (h : Header) (hw : h.wf) (stored damaged pad : Bytes)
    (hs : stored.length = h.valueLen + h.keyLen) (hd : damaged.length = h.valueLen + h.keyLen)
    (hstored : h.checksum = cs stored) (hnoforgery : cs damaged = cs stored → damaged = stored) :
    decEntry cs (encHeader h ++ damaged ++ pad) = .error .checksum ∨
    decEntry cs (encHeader h ++ damaged ++ pad) = .ok (h, stored.take h.valueLen, (stored.drop h.valueLen).take h.keyLen) := by
  by_cases hc : cs damaged = h.checksum
  · cases hnoforgery (hc.trans hstored)
    exact .inr (by rw [decEntry_framed cs h hw _ pad hs, if_neg (not_not_intro hc)])
  · exact .inl (decEntry_detects cs h hw damaged pad hd hc)

end Foyer.Codec
