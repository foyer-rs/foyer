import FoyerProofs.Lemmas.IndexFold
import FoyerProofs.Lemmas.HybridSteps
/-
  C01 — the hybrid cache never returns a stale or foreign value (hybrid model), part 1: the disk tier's own
  guarantees.  Recovery keeps, per hash, the copy with the highest sequence unless a logged tombstone is at least
  as new (all read off the slot of the hash in the rebuilt index, `recover_slot`); a disk lookup answers with the
  requested key's value or misses; memory shadows everything below it.
-/
namespace Foyer.Hyb
open Foyer

def toAddr (e : DiskEnt) : Nat × Idx := (e.hash, .addr e)
def toTomb (t : Nat × Nat) : Nat × Idx := (t.1, .tomb t.2)

theorem recover_eq (disk : List DiskEnt) (tombs : List (Nat × Nat)) :
    recover disk tombs = (insAll [] (disk.map toAddr ++ tombs.map toTomb)).filter fun p =>
      match p.2 with
      | .addr _ => true
      | .tomb _ => false := by
  unfold recover insAll
  simp only [List.foldl_append, List.foldl_map, toAddr, toTomb]
  rfl

theorem mem_items_addr {disk : List DiskEnt} {tombs : List (Nat × Nat)} {h : Nat} {e : DiskEnt} :
    (h, Idx.addr e) ∈ disk.map toAddr ++ tombs.map toTomb ↔ e ∈ disk ∧ e.hash = h := by
  simp only [List.mem_append, List.mem_map, toAddr, toTomb, Prod.mk.injEq, Idx.addr.injEq, reduceCtorEq, and_false,
    exists_false, or_false]
  constructor
  · rintro ⟨a, ha, hh, rfl⟩; exact ⟨ha, hh⟩
  · rintro ⟨he, hh⟩; exact ⟨e, he, hh, rfl⟩

theorem mem_items_tomb {disk : List DiskEnt} {tombs : List (Nat × Nat)} {h q : Nat} :
    (h, Idx.tomb q) ∈ disk.map toAddr ++ tombs.map toTomb ↔ (h, q) ∈ tombs := by
  simp only [List.mem_append, List.mem_map, toAddr, toTomb, Prod.mk.injEq, Idx.tomb.injEq, reduceCtorEq, and_false,
    exists_false, false_or]
  constructor
  · rintro ⟨a, ha, rfl, rfl⟩; exact ha
  · intro ht; exact ⟨(h, q), ht, rfl, rfl⟩

theorem indexAddr_recover (disk : List DiskEnt) (tombs : List (Nat × Nat)) (h : Nat) :
    indexAddr (recover disk tombs) h =
      match assocGet (insAll [] (disk.map toAddr ++ tombs.map toTomb)) h with
      | some (.addr e) => some e
      | _ => none := by
  have hnd : KeysNodup (insAll [] (disk.map toAddr ++ tombs.map toTomb)) := insAll_nodup List.nodup_nil
  unfold indexAddr
  rw [recover_eq, assocGet_filter _ _ hnd]
  cases assocGet (insAll [] (disk.map toAddr ++ tombs.map toTomb)) h with
  | none => rfl
  | some i => cases i <;> rfl

theorem recover_addr {h : Nat} (disk : List DiskEnt) (tombs : List (Nat × Nat)) (i : Idx)
    (hi : assocGet (recover disk tombs) h = some i) : ∃ e, i = .addr e ∧ indexAddr (recover disk tombs) h = some e := by
  have hm := assocGet_mem hi
  unfold recover at hm
  simp only [List.mem_filter] at hm
  cases i with
  | addr e => exact ⟨e, rfl, by unfold indexAddr; rw [hi]⟩
  | tomb q => simp at hm

theorem maxSeq_ge (disk : List DiskEnt) (tombs : List (Nat × Nat)) :
    (∀ d ∈ disk, d.seq ≤ maxSeq disk tombs) ∧ (∀ t ∈ tombs, t.2 ≤ maxSeq disk tombs) := by
  have k2 : ∀ x ∈ disk.map (·.seq) ++ tombs.map (·.2), x ≤ maxSeq disk tombs := fun x hx => by
    show x ≤ List.foldl max 0 _
    rw [List.foldl_max]
    exact Nat.le_trans (List.le_max?_getD_of_mem hx) (Nat.le_max_right ..)
  constructor
  · intro d hd
    exact k2 d.seq (List.mem_append.mpr (Or.inl (List.mem_map.mpr ⟨d, hd, rfl⟩)))
  · intro t ht
    exact k2 t.2 (List.mem_append.mpr (Or.inr (List.mem_map.mpr ⟨t, ht, rfl⟩)))

theorem recover_slot {disk : List DiskEnt} {tombs : List (Nat × Nat)} {h : Nat} {i : Idx}
    (hg : assocGet (insAll [] (disk.map toAddr ++ tombs.map toTomb)) h = some i) :
    (h, i) ∈ disk.map toAddr ++ tombs.map toTomb ∧ (∀ e ∈ disk, e.hash = h → e.seq ≤ i.seq) ∧
    (∀ q, (h, q) ∈ tombs → q ≤ i.seq) := by
  obtain ⟨hsrc, hmax, _⟩ := insAll_max _ _ _ _ hg
  exact ⟨hsrc.resolve_right (fun h1 => by cases h1), fun e he hh => hmax (.addr e) (mem_items_addr.mpr ⟨he, hh⟩),
    fun q hq => hmax (.tomb q) (mem_items_tomb.mpr hq)⟩

/-- **Recovery keeps the newest copy**: an entry the recovered index serves was really written for
that hash, and no other copy on the device and no logged tombstone of that hash is newer. -/
theorem recovery_picks_latest (disk : List DiskEnt) (tombs : List (Nat × Nat)) (h : Nat) (e : DiskEnt)
    (he : indexAddr (recover disk tombs) h = some e) :
    e ∈ disk ∧ e.hash = h ∧ (∀ e' ∈ disk, e'.hash = h → e'.seq ≤ e.seq) ∧
    (∀ sq, (h, sq) ∈ tombs → sq ≤ e.seq) := by
  rw [indexAddr_recover] at he
  split at he
  · rename_i e0 hg
    cases he
    obtain ⟨hsrc, h1, h2⟩ := recover_slot hg
    exact ⟨(mem_items_addr.mp hsrc).1, (mem_items_addr.mp hsrc).2, h1, h2⟩
  · cases he

/-- **Acknowledged or newer**: an entry on the device is what recovery serves for its hash, or something at
least as new is: a newer entry, or a logged tombstone. -/
theorem recovery_monotone (disk : List DiskEnt) (tombs : List (Nat × Nat)) (h : Nat) (e : DiskEnt) (he : e ∈ disk)
    (heh : e.hash = h) :
    (∃ e', indexAddr (recover disk tombs) h = some e' ∧ e.seq ≤ e'.seq) ∨ (∃ q, (h, q) ∈ tombs ∧ e.seq ≤ q) := by
  have hpres := insAll_present (disk.map toAddr ++ tombs.map toTomb) [] h _ (mem_items_addr.mpr ⟨he, heh⟩)
  rw [indexAddr_recover]
  cases hg : assocGet (insAll [] (disk.map toAddr ++ tombs.map toTomb)) h with
  | none => rw [hg] at hpres; cases hpres
  | some i =>
    obtain ⟨hsrc, h1, _⟩ := recover_slot hg
    cases i with
    | addr e' => exact Or.inl ⟨e', rfl, h1 e he heh⟩
    | tomb q => exact Or.inr ⟨q, mem_items_tomb.mp hsrc, h1 e he heh⟩

section
variable (h : Nat)

/-- **Recovery is complete**: an entry strictly newer than every other copy of its hash and than every logged
tombstone of its hash is what recovery shows for the hash. -/
theorem recovery_complete (disk : List DiskEnt) (tombs : List (Nat × Nat)) (e : DiskEnt) (he : e ∈ disk)
    (heh : e.hash = h) (hmax : ∀ d ∈ disk, d.hash = h → d = e ∨ d.seq < e.seq)
    (htb : ∀ q, (h, q) ∈ tombs → q < e.seq) : indexAddr (recover disk tombs) h = some e := by
  rcases recovery_monotone disk tombs h e he heh with ⟨e', h1, h2⟩ | ⟨q, h1, h2⟩
  · obtain ⟨a1, a2, _, _⟩ := recovery_picks_latest disk tombs h e' h1
    rcases hmax e' a1 a2 with h3 | h3
    · rw [h1, h3]
    · omega
  · have := htb q h1
    omega

end

/-- **A logged tombstone wins over every older copy**: if the tombstone log holds a tombstone of
`h` that is newer than every copy of `h` on the device, recovery leaves `h` absent. -/
theorem recovery_honours_tombstones (disk : List DiskEnt) (tombs : List (Nat × Nat)) (h sq : Nat)
    (ht : (h, sq) ∈ tombs) (hold : ∀ e ∈ disk, e.hash = h → e.seq < sq) :
    indexAddr (recover disk tombs) h = none := by
  cases hr : indexAddr (recover disk tombs) h with
  | none => rfl
  | some e =>
    obtain ⟨hm, hh, _, htb⟩ := recovery_picks_latest disk tombs h e hr
    have h1 := hold e hm hh
    have h2 := htb sq ht
    omega

section
variable {σ : Type} (P : Policy σ) (hc : HCfg)

/-- **The disk tier answers with the requested key's own value or misses** (it indexes by hash
alone; the decoded key is compared before a hit is accepted). -/
theorem disk_lookup_own_key_or_miss (s : HState σ) (k v : Nat)
    (h : (loadAndPopulate P hc s k).2 = some (v, "disk")) :
    ∃ e, indexAddr s.index (hc.mcfg.H k) = some e ∧ e.key = k ∧ e.ver = v := by
  rw [loadAndPopulate_eq] at h
  split at h
  · simp at h
  · split at h
    · cases h
    · rename_i e he
      split at h
      · rename_i hk
        simp only [Option.some.injEq, Prod.mk.injEq, and_true] at h
        exact ⟨e, he, hk, h⟩
      · cases h

/-- **Memory shadows the lower tiers**: if memory holds `k`, a lookup returns memory's version. -/
theorem memory_hit_returns_memory (s : HState σ) (k : Nat) (r : Rec)
    (hl : Cache.lookup hc.mcfg s.mem k = some r) :
    (step P hc s (.get k)).2 = .val k r.ver "memory" := by
  show (stepCore P hc s (.get k)).2 = _
  rw [stepCore_get, getSeq_hit P hc hl]
  rfl

end

section Demo
def d1 : DiskEnt := { key := 1, hash := 7, ver := 10, seq := 3 }
def d2 : DiskEnt := { key := 1, hash := 7, ver := 11, seq := 5 }
def d3 : DiskEnt := { key := 2, hash := 9, ver := 20, seq := 4 }
-- the newer copy of hash 7 wins; a tombstone newer than the only copy of hash 9 removes it
example : indexAddr (recover [d1, d3, d2] [(9, 6)]) 7 = some d2 := by decide
example : indexAddr (recover [d1, d3, d2] [(9, 6)]) 9 = none := by decide
example : indexAddr (recover [d1, d3, d2] [(7, 4)]) 7 = some d2 := by decide
end Demo

end Foyer.Hyb
