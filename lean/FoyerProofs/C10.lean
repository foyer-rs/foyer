import FoyerModel.Tomb
/-
  C10 — With the tombstone log, a flushed delete survives any number of restarts.

  `open_finds_tail`: for every history `(append* ; reopen)*` with strictly increasing, non-zero
  sequences whose total number of tombstones stays below the log's capacity, after every `open` the
  tail is right behind the last tombstone and *every* tombstone ever appended is recovered — no
  slot is overwritten, however the appends are distributed over pages and restarts.
-/
namespace Foyer.Tomb

def increasing : List Tomb → Nat → Prop
  | [], _ => True
  | t :: ts, lo => lo < t.seq ∧ increasing ts t.seq

/-- The shape of the device image after `ts` were appended: slot 0 unused, then `ts`, then empty slots. -/
def image (cap : Nat) (ts : List Tomb) : List Tomb := empty :: ts ++ List.replicate (cap - 1 - ts.length) empty

theorem increasing_left {a b : List Tomb} {lo : Nat} (h : increasing (a ++ b) lo) : increasing a lo := by
  induction a generalizing lo with
  | nil => trivial
  | cons x a ih => exact ⟨h.1, ih h.2⟩

theorem increasing_lt {ts : List Tomb} {lo : Nat} (h : increasing ts lo) : ∀ t ∈ ts, lo < t.seq := by
  induction ts generalizing lo with
  | nil => exact fun _ ht => nomatch ht
  | cons x ts ih => exact List.forall_mem_cons.2 ⟨h.1, fun t ht => Nat.lt_trans h.1 (ih h.2 t ht)⟩

theorem appended_append (a b : List Op) : appended (a ++ b) = appended a ++ appended b := by
  induction a with
  | nil => rfl
  | cons op a ih =>
    cases op with
    | append t => exact congrArg (t :: ·) ih
    | reopen => exact ih

theorem scanLatest_cons_empty (ts : List Tomb) (i : Nat) (acc : Option (Nat × Nat)) :
    scanLatest (empty :: ts) i acc = scanLatest ts (i + 1) acc := rfl

theorem scanLatest_empties (n i : Nat) (acc : Option (Nat × Nat)) :
    scanLatest (List.replicate n empty) i acc = acc := by
  induction n generalizing i with
  | zero => rfl
  | succ n ih => rw [List.replicate_succ, scanLatest_cons_empty, ih]

/-- `hacc` covers an empty and a filled accumulator alike. -/
theorem scanLatest_cons_lt {lo : Nat} (t : Tomb) (ts : List Tomb) (i : Nat) (acc : Option (Nat × Nat))
    (hacc : ∀ p ∈ acc, p.1 ≤ lo) (h : lo < t.seq) :
    scanLatest (t :: ts) i acc = scanLatest ts (i + 1) (some (t.seq, i)) := by
  have hne : t.seq ≠ 0 := Nat.ne_zero_of_lt h
  obtain _ | ⟨s, j⟩ := acc
  · exact if_neg hne
  · exact (if_neg hne).trans (if_neg (Nat.lt_asymm (Nat.lt_of_le_of_lt (hacc _ rfl) h)))

theorem scanLatest_increasing (ts : List Tomb) (t : Tomb) (rest : List Tomb) (i lo : Nat) (acc : Option (Nat × Nat))
    (hacc : ∀ p ∈ acc, p.1 ≤ lo) (hinc : increasing (ts ++ [t]) lo) :
    scanLatest (ts ++ [t] ++ rest) i acc = scanLatest rest (ts.length + i + 1) (some (t.seq, ts.length + i)) := by
  induction ts generalizing i lo acc with
  | nil => rw [List.length_nil, Nat.zero_add]; exact scanLatest_cons_lt t rest i acc hacc hinc.1
  | cons u ts ih =>
    rw [List.cons_append, List.cons_append, scanLatest_cons_lt u _ i acc hacc hinc.1, List.length_cons,
      Nat.add_right_comm _ 1 i]
    exact ih (i + 1) u.seq (some (u.seq, i)) (fun _ hp => Option.some.inj hp ▸ Nat.le_refl u.seq) hinc.2

theorem latestIndex_image (cap : Nat) (ts : List Tomb) (hinc : increasing ts 0) :
    latestIndex (image cap ts) = ts.length := by
  unfold latestIndex image
  rw [List.cons_append, scanLatest_cons_empty]
  rcases List.eq_nil_or_concat ts with rfl | ⟨init, last, rfl⟩
  · rw [List.nil_append, scanLatest_empties]; rfl
  · rw [List.concat_eq_append] at hinc ⊢
    rw [scanLatest_increasing init last _ _ 0 none (fun _ hp => nomatch hp) hinc, scanLatest_empties,
      List.length_append]
    rfl

theorem recovered_image (cap : Nat) (ts : List Tomb) (hinc : increasing ts 0) : recovered (image cap ts) = ts := by
  unfold recovered image
  rw [List.filter_append, List.filter_cons_of_neg (by decide), List.filter_replicate_of_neg (by decide),
    List.append_nil, List.filter_eq_self]
  intro t ht
  exact decide_eq_true (Nat.ne_zero_of_lt (increasing_lt hinc t ht))

theorem slotIndex_small (pages s : Nat) (h : s < pages * SPP) : slotIndex pages s = s := by
  rw [slotIndex, Nat.mod_eq_of_lt ((Nat.div_lt_iff_lt_mul (by decide)).2 h), Nat.div_add_mod']

theorem set_length_append {α} (a : List α) (x y : α) (b : List α) : (a ++ x :: b).set a.length y = a ++ y :: b := by
  rw [List.set_append_right _ _ (Nat.le_refl _), Nat.sub_self, List.set_cons_zero]

theorem replicate_pos {α} {n : Nat} (a : α) (h : 0 < n) : List.replicate n a = a :: List.replicate (n - 1) a :=
  match n, h with
  | _ + 1, _ => rfl

theorem image_nil {cap : Nat} (h : 0 < cap) : image cap [] = List.replicate cap empty :=
  (replicate_pos empty h).symm

theorem image_append (cap : Nat) (ts : List Tomb) (t : Tomb) (h : ts.length + 1 < cap) :
    (image cap ts).set (ts.length + 1) t = image cap (ts ++ [t]) := by
  unfold image
  rw [replicate_pos empty (Nat.sub_pos_of_lt (Nat.lt_sub_of_add_lt h)), List.cons_append, List.set_cons_succ,
    set_length_append, List.append_cons, List.length_append, List.length_singleton]
  rfl

/-- The invariant: the device holds exactly the appended tombstones behind the unused slot 0, and
the tail is right behind them. -/
structure Good (cap : Nat) (l : Log) (ts : List Tomb) : Prop where
  slots_eq : l.slots = image cap ts
  tail_eq : l.tail = ts.length + 1
  cap_eq : cap = l.pages * SPP

theorem fresh_good (pages : Nat) (hp : 0 < pages) : Good (pages * SPP) (fresh pages) [] where
  slots_eq := (image_nil (Nat.mul_pos hp (by decide))).symm
  tail_eq := by
    show latestIndex (List.replicate (pages * SPP) empty) + 1 = _
    rw [latestIndex, scanLatest_empties]
    rfl
  cap_eq := rfl

theorem Good.append {cap : Nat} {l : Log} {ts : List Tomb} (h : Good cap l ts) (t : Tomb)
    (hlen : ts.length + 1 < cap) : Good cap (step l (.append t)) (ts ++ [t]) where
  slots_eq := by
    show l.slots.set (slotIndex l.pages l.tail) t = _
    rw [h.tail_eq, h.slots_eq, slotIndex_small _ _ (h.cap_eq ▸ hlen), image_append cap ts t hlen]
  tail_eq := by
    show l.tail + 1 = _
    rw [h.tail_eq, List.length_append, List.length_singleton]
  cap_eq := h.cap_eq

theorem Good.reopen {cap : Nat} {l : Log} {ts : List Tomb} (h : Good cap l ts) (hinc : increasing ts 0) :
    Good cap (step l .reopen) ts where
  slots_eq := h.slots_eq
  tail_eq := by
    show latestIndex l.slots + 1 = _
    rw [h.slots_eq, latestIndex_image cap ts hinc]
  cap_eq := h.cap_eq

/-- **open_finds_tail** — for every interleaving of appends and reopens whose tombstones carry
strictly increasing non-zero sequences and number fewer than the log's slots: the final state holds
every appended tombstone (`recovered` returns exactly them, in order) and the tail is right behind
the last one.  In particular nothing is lost across any number of restarts. -/
theorem open_finds_tail (pages : Nat) (hp : 0 < pages) : ∀ (ops : List Op) (l : Log) (ts : List Tomb),
    Good (pages * SPP) l ts → increasing (ts ++ appended ops) 0 → ts.length + (appended ops).length + 1 ≤ pages * SPP →
    Good (pages * SPP) (run l ops) (ts ++ appended ops) := by
  intro ops
  induction ops with
  | nil => intro l ts h _ _; rw [appended, List.append_nil]; exact h
  | cons op ops ih =>
    intro l ts h hinc hlen
    cases op with
    | append t =>
      rw [appended, List.length_cons] at hlen
      rw [appended, List.append_cons] at hinc ⊢
      refine ih _ _ (h.append t (by omega)) hinc ?_
      rw [List.length_append, List.length_singleton, Nat.add_right_comm _ 1]
      exact hlen
    | reopen => exact ih _ _ (h.reopen (increasing_left hinc)) hinc hlen

/-- The property at the level of a fresh log: after any history below capacity, reopening recovers
every tombstone that was ever appended. -/
theorem flushed_deletes_survive (pages : Nat) (hp : 0 < pages) (ops : List Op)
    (hinc : increasing (appended ops) 0) (hlen : (appended ops).length + 1 ≤ pages * SPP) :
    recovered (run (fresh pages) (ops ++ [.reopen])).slots = appended ops ∧
    (run (fresh pages) (ops ++ [.reopen])).tail = (appended ops).length + 1 := by
  have happ : appended (ops ++ [.reopen]) = appended ops := (appended_append ops _).trans (List.append_nil _)
  have h := open_finds_tail pages hp (ops ++ [.reopen]) (fresh pages) [] (fresh_good pages hp)
  rw [happ, List.nil_append, List.length_nil, Nat.zero_add] at h
  have h := h hinc hlen
  exact ⟨h.slots_eq ▸ recovered_image _ _ hinc, h.tail_eq⟩

/-! ### Non-vacuity: the scenario that breaks an in-page-only position (D5) -/
namespace Demo
def mk (n : Nat) (from_ : Nat) : List Op := (List.range n).map fun i => Op.append { hash := from_ + i, seq := from_ + i }
instance decIncreasing : ∀ ts lo, Decidable (increasing ts lo)
  | [], _ => isTrue trivial
  | t :: ts, _ => @instDecidableAnd _ _ _ (decIncreasing ts t.seq)

theorem appended_length : (appended (mk 300 1 ++ [.reopen] ++ mk 2 301)).length = 302 := by decide +kernel

/-- 300 deletes (more than one page), reopen, 2 more deletes, reopen: the history is within the theorem, so all
302 are recovered.  (Running the ring itself in the kernel is slow to check; the theorem's hypotheses are
evaluated instead.) -/
theorem survives : recovered (run (fresh 2) (mk 300 1 ++ [.reopen] ++ mk 2 301 ++ [.reopen])).slots =
      appended (mk 300 1 ++ [.reopen] ++ mk 2 301) ∧
    (run (fresh 2) (mk 300 1 ++ [.reopen] ++ mk 2 301 ++ [.reopen])).tail = 303 := by
  have h := flushed_deletes_survive 2 (by decide) (mk 300 1 ++ [.reopen] ++ mk 2 301) (by decide +kernel)
  rw [appended_length] at h
  exact h (by decide)

example : (recovered (run (fresh 2) (mk 300 1 ++ [.reopen] ++ mk 2 301 ++ [.reopen])).slots).length = 302 :=
  (congrArg List.length survives.1).trans appended_length
example : (run (fresh 2) (mk 300 1 ++ [.reopen] ++ mk 2 301 ++ [.reopen])).tail = 303 :=
  survives.2
end Demo

end Foyer.Tomb
