import FoyerModel.Reclaim
/-
  C09 — reusing disk space never damages live entries and never stalls writers (event-level model
  of the block manager, `FoyerModel.Reclaim`).  Every theorem holds for *every* sequence of events,
  i.e. for every interleaving of flusher windows, completions and reclaims.
-/
namespace Foyer.Rcl

/-- how often block `x` occurs in the four sets -/
def cnt (s : St) (x : Nat) : Nat :=
  s.clean.count x + s.writing.count x + s.evictable.count x + s.reclaiming.count x

structure Inv (c : RCfg) (n : Nat) (s : St) : Prop where
  /-- every block is in exactly one of clean / writing / evictable / reclaiming -/
  one : ∀ x, cnt s x = if x < n then 1 else 0
  /-- no indexed entry lives in a clean block -/
  idx : ∀ p ∈ s.index, p.2 ∉ s.clean
  /-- a writer waits only while the clean queue is empty -/
  wait : s.waiters > 0 → s.clean = []
  /-- what `reclaim_if_needed` leaves behind: if clean blocks are short and no reclaim is running,
  nothing is evictable -/
  need : s.clean.length < c.thr → s.reclaiming = [] → s.evictable = []
  /-- blocks are picked for reclaim in the order they were filled -/
  fifo : s.finished = s.picked ++ s.evictable

/-- **A block is in exactly one state**: never handed to two writers, never reclaimed (or clean, or
evictable) while being written. -/
theorem block_in_one_state {c : RCfg} {n : Nat} {s : St} (h : Inv c n s) :
    s.all.Nodup ∧ ∀ x, x ∈ s.all ↔ x < n := by
  have hp : s.all.Perm (List.range n) := List.perm_iff_count.mpr fun x => by
    rw [List.count_range, ← h.one x]
    simp only [St.all, cnt, List.count_append]
  exact ⟨hp.nodup_iff.mpr List.nodup_range, fun x => by rw [hp.mem_iff, List.mem_range]⟩

theorem writers_exclusive {c : RCfg} {n : Nat} {s : St} (h : Inv c n s) :
    s.writing.Nodup ∧ ∀ b ∈ s.writing, b ∉ s.clean ∧ b ∉ s.evictable ∧ b ∉ s.reclaiming := by
  -- `all = clean ++ writing ++ evictable ++ reclaiming` has no duplicates: its parts have none and are disjoint
  have h1 := List.nodup_append.mp (block_in_one_state h).1
  have h2 := List.nodup_append.mp h1.1
  have h3 := List.nodup_append.mp h2.1
  exact ⟨h3.2.1, fun b hb =>
    ⟨fun hc => h3.2.2 b hc b hb rfl,
     fun he => h2.2.2 b (List.mem_append_right _ hb) b he rfl,
     fun hr => h1.2.2 b (List.mem_append_left _ (List.mem_append_right _ hb)) b hr rfl⟩⟩

section Equations
variable {c : RCfg} {s : St} {b : Nat}

theorem reclaimIfNeeded_clean : (reclaimIfNeeded c s).clean = s.clean := by
  unfold reclaimIfNeeded; split
  · split <;> rfl
  · rfl

theorem reclaimIfNeeded_index : (reclaimIfNeeded c s).index = s.index := by
  unfold reclaimIfNeeded; split
  · split <;> rfl
  · rfl

theorem reclaimIfNeeded_waiters : (reclaimIfNeeded c s).waiters = s.waiters := by
  unfold reclaimIfNeeded; split
  · split <;> rfl
  · rfl

theorem reclaimIfNeeded_writing : (reclaimIfNeeded c s).writing = s.writing := by
  unfold reclaimIfNeeded; split
  · split <;> rfl
  · rfl

theorem step_of_not_enabled {e : Ev} (h : enabled s e = false) : step c s e = s := by
  cases e with
  | take => cases h
  | delete k => cases h
  | wrote b keys => exact if_neg (Bool.eq_false_iff.mp h)
  | finish b => exact if_neg (Bool.eq_false_iff.mp h)
  | reclaimed b => exact if_neg (Bool.eq_false_iff.mp h)

theorem step_take_nil (h : s.clean = []) : step c s .take = { s with waiters := s.waiters + 1 } := by
  simp only [step, h]

theorem step_take_cons {rest : List Nat} (h : s.clean = b :: rest) :
    step c s .take = reclaimIfNeeded c { s with clean := rest, writing := s.writing ++ [b] } := by
  simp only [step, h]

theorem step_wrote (keys : List Nat) (h : s.writing.contains b = true) :
    step c s (.wrote b keys) =
      { s with index := keys.map (fun k => (k, b)) ++ s.index.filter (fun p => !keys.contains p.1) } :=
  if_pos h

theorem step_finish (h : s.writing.contains b = true) :
    step c s (.finish b) = reclaimIfNeeded c
      { s with writing := s.writing.erase b, evictable := s.evictable ++ [b], finished := s.finished ++ [b] } :=
  if_pos h

theorem step_reclaimed_waiter (h : s.reclaiming.contains b = true) (hw : s.waiters > 0) :
    step c s (.reclaimed b) = reclaimIfNeeded c
      { s with reclaiming := s.reclaiming.erase b, index := s.index.filter (fun p => p.2 ≠ b),
               waiters := s.waiters - 1, writing := s.writing ++ [b] } := by
  simp only [step, h, hw, if_true]

theorem step_reclaimed_clean (h : s.reclaiming.contains b = true) (hw : ¬ s.waiters > 0) :
    step c s (.reclaimed b) = reclaimIfNeeded c
      { s with reclaiming := s.reclaiming.erase b, index := s.index.filter (fun p => p.2 ≠ b),
               clean := s.clean ++ [b] } := by
  simp only [step, h, hw, if_true, if_false]

end Equations

theorem reclaimIfNeeded_inv {c : RCfg} (hconc : 1 ≤ c.conc) {n : Nat} {s : St}
    (one : ∀ x, cnt s x = if x < n then 1 else 0) (idx : ∀ p ∈ s.index, p.2 ∉ s.clean)
    (wait : s.waiters > 0 → s.clean = []) (fifo : s.finished = s.picked ++ s.evictable) :
    Inv c n (reclaimIfNeeded c s) := by
  unfold reclaimIfNeeded
  split
  · split
    next he => exact ⟨one, idx, wait, fun _ _ => he, fifo⟩
    next b rest he =>
      have he : s.evictable = [b] ++ rest := he
      refine ⟨fun x => ?_, idx, wait, fun _ hr => ?_, ?_⟩
      · rw [← one x]
        simp +arith only [cnt, he, List.count_append]
      · exact absurd hr (List.append_ne_nil_of_right_ne_nil _ (List.cons_ne_nil _ _))
      · show s.finished = s.picked ++ [b] ++ rest
        rw [fifo, he, List.append_assoc]
  next hcond =>
    -- the guard failed although clean blocks are short: `conc` reclaims are running, and `conc ≥ 1`
    refine ⟨one, idx, wait, fun hc hr => ?_, fifo⟩
    simp only [Bool.and_eq_true, decide_eq_true_eq, not_and, hr, List.length_nil] at hcond
    exact absurd hconc (hcond hc)

theorem inv_init (c : RCfg) (n : Nat) : Inv c n (init n) :=
  ⟨fun x => by simp only [cnt, init, List.count_nil, Nat.add_zero, List.count_range],
   fun _ hp => (nomatch hp), fun hw => absurd hw (Nat.lt_irrefl 0), fun _ _ => rfl, rfl⟩

/-- **Every event keeps the invariant.** -/
theorem step_inv {c : RCfg} (hconc : 1 ≤ c.conc) {n : Nat} {s : St} (h : Inv c n s) (e : Ev) :
    Inv c n (step c s e) := by
  by_cases hen : enabled s e = true
  case neg =>
    rw [step_of_not_enabled (eq_false_of_ne_true hen)]
    exact h
  cases e with
  | take =>
    cases hcl : s.clean with
    | nil =>
      rw [step_take_nil hcl]
      exact ⟨h.one, h.idx, fun _ => hcl, h.need, h.fifo⟩
    | cons b rest =>
      rw [step_take_cons hcl]
      refine reclaimIfNeeded_inv hconc (fun x => ?_) (fun p hp hm => ?_) (fun hw => ?_) h.fifo
      · have hcl : s.clean = [b] ++ rest := hcl
        rw [← h.one x]
        simp +arith only [cnt, hcl, List.count_append]
      · exact h.idx p hp (hcl ▸ List.mem_cons_of_mem _ hm)
      · exact absurd (h.wait hw) (hcl ▸ List.cons_ne_nil _ _)
  | wrote b keys =>
    rw [step_wrote keys hen]
    refine ⟨h.one, fun p hp => ?_, h.wait, h.need, h.fifo⟩
    rcases List.mem_append.mp hp with h1 | h1
    · obtain ⟨k, _, rfl⟩ := List.mem_map.mp h1
      exact ((writers_exclusive h).2 b (List.contains_iff_mem.mp hen)).1
    · exact h.idx p (List.mem_filter.mp h1).1
  | finish b =>
    have hb := (List.perm_cons_erase (List.contains_iff_mem.mp hen)).count_eq
    rw [step_finish hen]
    refine reclaimIfNeeded_inv hconc (fun x => ?_) h.idx h.wait ?_
    · rw [← h.one x]
      simp +arith only [cnt, List.count_append, hb x, List.count_cons, List.count_nil]
    · show s.finished ++ [b] = s.picked ++ (s.evictable ++ [b])
      rw [h.fifo, List.append_assoc]
  | reclaimed b =>
    have hb := (List.perm_cons_erase (List.contains_iff_mem.mp hen)).count_eq
    by_cases hw : s.waiters > 0
    · rw [step_reclaimed_waiter hen hw]
      refine reclaimIfNeeded_inv hconc (fun x => ?_) (fun p hp => ?_) (fun _ => h.wait hw) h.fifo
      · rw [← h.one x]
        simp +arith only [cnt, List.count_append, hb x, List.count_cons, List.count_nil]
      · exact h.idx p (List.mem_filter.mp hp).1
    · rw [step_reclaimed_clean hen hw]
      refine reclaimIfNeeded_inv hconc (fun x => ?_) (fun p hp hm => ?_) (fun hw' => absurd hw' hw) h.fifo
      · rw [← h.one x]
        simp +arith only [cnt, List.count_append, hb x, List.count_cons, List.count_nil]
      · have hp := List.mem_filter.mp hp
        rcases List.mem_append.mp hm with h1 | h1
        · exact h.idx p hp.1 h1
        · exact of_decide_eq_true hp.2 (List.mem_singleton.mp h1)
  | delete k =>
    exact ⟨h.one, fun p hp => h.idx p (List.mem_filter.mp hp).1, h.wait, h.need, h.fifo⟩

/-- … hence in every state reachable by any interleaving of events. -/
theorem run_inv {c : RCfg} (hconc : 1 ≤ c.conc) (n : Nat) (hn : c.thr ≤ n) (es : List Ev) :
    Inv c n (run c (init n) es) := by
  have gen : ∀ (es : List Ev) (s : St), Inv c n s → Inv c n (run c s es) := by
    intro es
    induction es with
    | nil => intro s h; exact h
    | cons e es ih => intro s h; exact ih _ (step_inv hconc h e)
  exact gen es _ (inv_init c n)

/-- **A block is never rewritten while it still backs indexed entries**: a block a writer receives —
from the clean queue or straight from the reclaimer — has no indexed entry. -/
theorem handed_block_unindexed {c : RCfg} {n : Nat} {s : St} (h : Inv c n s) (e : Ev) (b : Nat)
    (hnew : b ∈ (step c s e).writing) (hold : b ∉ s.writing) : ∀ p ∈ (step c s e).index, p.2 ≠ b := by
  by_cases hen : enabled s e = true
  case neg =>
    rw [step_of_not_enabled (eq_false_of_ne_true hen)] at hnew
    exact absurd hnew hold
  cases e with
  | take =>
    cases hcl : s.clean with
    | nil => rw [step_take_nil hcl] at hnew; exact absurd hnew hold
    | cons b' rest =>
      simp only [step_take_cons hcl, reclaimIfNeeded_writing, reclaimIfNeeded_index] at hnew ⊢
      have hb : b = b' := List.mem_singleton.mp ((List.mem_append.mp hnew).resolve_left hold)
      exact fun p hp he => h.idx p hp (by rw [hcl, he, hb]; exact List.mem_cons_self)
  | wrote b' keys => rw [step_wrote keys hen] at hnew; exact absurd hnew hold
  | finish b' =>
    simp only [step_finish hen, reclaimIfNeeded_writing] at hnew
    exact absurd (List.mem_of_mem_erase hnew) hold
  | reclaimed b' =>
    by_cases hw : s.waiters > 0
    · simp only [step_reclaimed_waiter hen hw, reclaimIfNeeded_writing, reclaimIfNeeded_index] at hnew ⊢
      have hb : b = b' := List.mem_singleton.mp ((List.mem_append.mp hnew).resolve_left hold)
      exact fun p hp => hb ▸ of_decide_eq_true (List.mem_filter.mp hp).2
    · simp only [step_reclaimed_clean hen hw, reclaimIfNeeded_writing] at hnew
      exact absurd hnew hold
  | delete k => exact absurd hnew hold

/-- **Blocks are reclaimed oldest-filled first** (FIFO picker). -/
theorem reclaim_in_fill_order {c : RCfg} {n : Nat} {s : St} (h : Inv c n s) : s.picked <+: s.finished :=
  ⟨s.evictable, h.fifo.symm⟩

/-- **A waiting writer is not forgotten**: whenever a writer waits for a clean block, a reclaim is
running (its completion hands the block to a waiter), or there is nothing to reclaim because every
block is being written. -/
theorem waiting_writer_is_served {c : RCfg} (hthr : 1 ≤ c.thr) {n : Nat} {s : St} (h : Inv c n s)
    (hw : s.waiters > 0) : s.reclaiming ≠ [] ∨ (s.evictable = [] ∧ s.clean = []) := by
  have hc := h.wait hw
  by_cases hr : s.reclaiming = []
  · exact .inr ⟨h.need (by rw [hc]; exact hthr) hr, hc⟩
  · exact .inl hr

/-- the reclaimer's completion serves a waiter first -/
theorem reclaim_serves_waiter (c : RCfg) (s : St) (b : Nat) (hb : s.reclaiming.contains b = true) (hw : s.waiters > 0) :
    (step c s (.reclaimed b)).waiters = s.waiters - 1 ∧ b ∈ (step c s (.reclaimed b)).writing := by
  rw [step_reclaimed_waiter hb hw, reclaimIfNeeded_waiters, reclaimIfNeeded_writing]
  exact ⟨rfl, List.mem_append_right _ List.mem_cons_self⟩

section Demo
def dcfg : RCfg := { thr := 1, conc := 1 }
def devs : List Ev := [.take, .wrote 0 [7, 8], .take, .finish 0, .take, .wrote 1 [9], .finish 1, .take, .reclaimed 0, .take]
-- three blocks: block 0 is filled, finished, reclaimed when clean blocks run short, and comes back clean
example : (run dcfg (init 3) devs).picked = [0, 1] := by decide
example : (run dcfg (init 3) devs).index = [(9, 1)] := by decide
example : (run dcfg (init 3) devs).writing = [2, 0] := by decide
end Demo

end Foyer.Rcl
