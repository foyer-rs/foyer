import FoyerProofs.C06
/-
  C11 — An explicit insert is not overwritten by an older in-flight fetch.
-/
namespace Foyer.Infl

/-- **insert_answers_waiters**: `insert k v` delivers `v` to every caller that was waiting for `k`
and leaves no flight for `k` behind (its leader is closed). -/
theorem insert_answers_waiters (s : St) (k v : Nat) :
    (step s (.insert k v)).cache k = some v ∧ (step s (.insert k v)).flight k = none ∧
    (∀ fl, s.flight k = some fl → ∀ c ∈ s.callers, c.st = .pending → c.id ∈ fl.waiters →
      ∃ c' ∈ (step s (.insert k v)).callers, c'.id = c.id ∧ c'.st = .done (.val v)) :=
  ⟨upd_same _ _ _, takeNotify_flight s k _, fun _ hfl => (takeNotify_answers _ hfl).2⟩

theorem trySetRequired_cache (s : St) (k : Nat) (fl : Flight) (fr : Option Nat) (r : Res) :
    (trySetRequired s k fl fr r).cache = s.cache := by
  unfold trySetRequired
  cases fr with
  | some f => rfl
  | none =>
    cases fl.donated with
    | some f => rfl
    | none => exact takeNotify_cache s k r

theorem step_cache (s : St) (k : Nat) (hnf : s.flight k = none) (e : Ev)
    (hne : ∀ w, e ≠ .insert k w ∧ e ≠ .pinsert k w) (hnr : e ≠ .remove k) :
    (step s e).cache k = s.cache k := by
  have other : ∀ (j : Nat) (x : Option Nat) (r : Res), k ≠ j → upd (takeNotify s j r).cache j x k = s.cache k :=
    fun j x r hkj => (upd_other _ _ hkj).trans (congrFun (takeNotify_cache s j r) k)
  -- a value is delivered only to a key that has a flight, so not to `k`
  have future := step_future (P := fun t => t.cache k = s.cache k) rfl
    (fun j w fl hj => other j _ _ (by rintro rfl; exact nomatch hj.symm.trans hnf))
    (fun j fl fr r _ => congrFun (trySetRequired_cache ..) k) (fun j => congrFun (takeNotify_cache ..) k)
  cases e with
  | call c j disk fetch =>
    cases hc : s.cache j with
    | some v => simp only [step, hc]
    | none =>
      cases hf : s.flight j with
      | some fl => simp only [step, hc, hf]
      | none =>
        simp only [step, hc, hf]
        split
        · rfl
        · split <;> rfl
  | disk c r => exact future.1 c r
  | origin f r => exact future.2 f r
  | insert j w => exact other j _ _ (by rintro rfl; exact (hne w).1 rfl)
  | pinsert j w => exact other j _ _ (by rintro rfl; exact (hne w).2 rfl)
  | remove j => exact upd_other _ _ (by rintro rfl; exact hnr rfl)
  | dropCaller c => rfl
  | abort =>
    exact List.foldlRecOn (motive := fun t : St => t.cache k = s.cache k) _ _ rfl
      fun t ht j _ => (congrFun (takeNotify_cache t j _) k).trans ht

/-- **late_fetch_discarded**: once `insert k v` has returned, `k` reads `v` in *every* later state,
whatever the still-running fetch resolves to, whoever else calls, until the next explicit insert
or remove of `k`. -/
theorem late_fetch_discarded (k v : Nat) : ∀ (evs : List Ev) (s : St), Inv s → wfRun s evs →
    s.cache k = some v → (∀ e ∈ evs, (∀ w, e ≠ .insert k w ∧ e ≠ .pinsert k w) ∧ e ≠ .remove k) →
    (run s evs).cache k = some v := by
  intro evs s h _ hc hall
  -- along the run the invariant holds and `k` stays cached, hence without a flight
  have := List.foldlRecOn (motive := fun t : St => Inv t ∧ t.cache k = some v) evs step ⟨h, hc⟩
    fun t ht e he => ⟨inv_step ht.1 e,
      (step_cache t k (ht.1.cached_no_flight k v ht.2) e (hall e he).1 (hall e he).2).trans ht.2⟩
  exact this.2

theorem wfRun_append : ∀ (a b : List Ev) (s : St), wfRun s (a ++ b) → wfRun (run s a) b
  | [], _, _, h => h
  | _ :: es, b, _, h => wfRun_append es b _ h.2

/-- The property as stated: from any reachable state, insert `k v`, then anything that is not an
insert / remove of `k`. -/
theorem insert_not_overwritten (pre post : List Ev) (k v : Nat) (hw : wfRun {} (pre ++ [.insert k v] ++ post))
    (hpost : ∀ e ∈ post, (∀ w, e ≠ .insert k w ∧ e ≠ .pinsert k w) ∧ e ≠ .remove k) :
    (run {} (pre ++ [.insert k v] ++ post)).cache k = some v := by
  rw [run, List.foldl_append]
  refine late_fetch_discarded k v post _ (inv_run _ _ inv_init) (wfRun_append _ _ _ hw) ?_ hpost
  rw [List.foldl_append]
  exact upd_same _ _ _

/-- **A disk-only insert** (`pinsert`: the memory filter rejects the value, or on-disk advice) **closes the
flight of its key all the same**: its waiters receive the inserted value, nothing stays cached for the key, and
no flight is left whose late result could be written. -/
theorem pinsert_closes_flight (s : St) (k v : Nat) :
    (step s (.pinsert k v)).cache k = none ∧ (step s (.pinsert k v)).flight k = none ∧
    (∀ fl, s.flight k = some fl → ∀ c ∈ s.callers, c.st = .pending → c.id ∈ fl.waiters →
      ∃ c' ∈ (step s (.pinsert k v)).callers, c'.id = c.id ∧ c'.st = .done (.val v)) :=
  ⟨upd_same _ _ _, takeNotify_flight s k _, fun _ hfl => (takeNotify_answers _ hfl).2⟩

/-- **The result of a closed lookup / fetch is discarded**: with no flight for the key of caller `c`, a late
disk or origin result for `c` changes nothing at all. -/
theorem closed_flight_ignores_results (s : St) (c k : Nat) (hk : keyOfCaller s c = some k) (hf : s.flight k = none)
    (d : DRes) (o : ORes) : step s (.disk c d) = s ∧ step s (.origin c o) = s := by
  constructor <;> simp only [step, hk, hf]

namespace Demo11
def evs : List Ev := [.call 0 3 false true, .insert 3 100, .origin 0 (.ok 7), .call 1 3 false true]
example : (run {} evs).cache 3 = some 100 := by decide
example : (run {} evs).callers.map (·.st) = [.done (.val 100), .done (.hit 100)] := by decide
example : (run {} evs).started = [0] := by decide
/-- a disk-only insert while a fetch is in flight: the waiter gets the inserted value, the late fetch result is dropped -/
def evs2 : List Ev := [.call 0 3 false true, .pinsert 3 1000000100, .origin 0 (.ok 7), .call 1 3 false false]
example : (run {} evs2).cache 3 = none := by decide
example : (run {} evs2).callers.map (·.st) = [.done (.val 1000000100), .done .none] := by decide
end Demo11

end Foyer.Infl
