import FoyerProofs.C01Woe
import FoyerProofs.Lemmas.DiskSideStep
/-
  C01 / C15, part 4 — **graceful restarts** (close + reopen) inside the histories of the refinement theorem, with
  the tombstone log enabled (without it a remove is forgotten by a restart: a known finding).  `reads_from_restarts`: the
  invariant `HB` of `reads_truth` joined with the disk-side invariant `RB` ("the index shows what recovery would
  reconstruct"), which makes the restart invisible (`rb_reopened`); the only new case is `.reopen` (`hinv_reopen`),
  and all it asks is that what memory still holds of `k` when the store closes is `Clean`: always so under
  write-on-insertion, the closing flush's job under write-on-eviction (the side invariant `J`).
-/
namespace Foyer.Hyb
open Foyer

/-- the histories: those of `okOp`, plus graceful restarts -/
def isReopen : HOp → Bool
  | .reopen => true
  | _ => false

def okOpR (k : Nat) (op : HOp) : Prop := okOp k op ∨ isReopen op = true

theorem isReopen_eq {op : HOp} (h : isReopen op = true) : op = .reopen := by
  cases op <;> simp only [isReopen] at h <;> first | rfl | cases h

theorem okOp_quiet {k : Nat} {op : HOp} (h : okOp k op) : quietOp op := by
  cases op <;> simp only [okOp] at h <;> simp only [quietOp]

section
variable {σ : Type} (P : Policy σ) (hc : HCfg) (Ok : σ → Prop) (L : Lawful P Ok) (hn : 0 < hc.mcfg.nshards)
  (ht : hc.tombLog = true) (k : Nat)

/-- memory as the store closes: after the closing flush, if flush-on-close is set -/
def closingMem (c : Cache σ) : Cache σ := if hc.foc then (Cache.step P hc.mcfg c .flush).1 else c

variable {P} {hc} {Ok} {k}

theorem closingMem_foc (hf : hc.foc = true) (c : Cache σ) : closingMem P hc c = (Cache.step P hc.mcfg c .flush).1 :=
  if_pos hf

theorem closingMem_nofoc (hf : ¬ hc.foc = true) (c : Cache σ) : closingMem P hc c = c := if_neg hf

include L hn ht in
/-- **A graceful restart keeps the invariant and the register**, provided what memory still holds of `k` when
the store closes need not be written: the disk tier shows the register value, and recovery shows what the index
showed (`rb_reopened`). -/
theorem hinv_reopen {tr : Option Nat} {s : HState σ} (h : HInv P hc Ok k tr s) (rb : RB hc (hc.mcfg.H k) s)
    (hcl : ∀ r, Cache.lookup hc.mcfg (closingMem P hc s.mem) k = some r → Clean hc r) :
    HInv P hc Ok k tr (stepCore P hc s .reopen).1 ∧ (stepCore P hc s .reopen).1.mem.held = [] := by
  rw [stepCore_reopen]
  have h1 : HInv P hc Ok k tr (if hc.foc = true then (memOp P hc s .flush).1 else s) ∧
      RB hc (hc.mcfg.H k) (if hc.foc = true then (memOp P hc s .flush).1 else s) ∧
      (if hc.foc = true then (memOp P hc s .flush).1 else s).mem = closingMem P hc s.mem := by
    by_cases hf : hc.foc = true
    · rw [if_pos hf, closingMem_foc hf]
      exact ⟨hinv_memOp_nodrop L hn h .flush (by simp only [quietFor]) rfl,
        rb_memOp rb .flush, memOp_mem P hc s .flush⟩
    · rw [if_neg hf, closingMem_nofoc hf]
      exact ⟨h, rb, rfl⟩
  generalize (if hc.foc = true then (memOp P hc s .flush).1 else s) = s1 at h1
  obtain ⟨w1, b1, hm1⟩ := h1
  obtain ⟨b3, hpv⟩ := rb_reopened b1 ht (Cache.new P hc.mcfg ((s.mem.shards.map (·.cap)).sum))
  refine ⟨⟨new_inv L hc.mcfg _, b3.ds, ?_⟩, rfl⟩
  show Coh hc k tr _ (Cache.lookup hc.mcfg (Cache.new P hc.mcfg _) k)
  rw [lookup_new, coh_none]
  intro e he hke
  have hp := (hpv e).mp he
  have hcoh := w1.coh
  cases hl : Cache.lookup hc.mcfg s1.mem k with
  | none => rw [hl, coh_none] at hcoh; exact hcoh e hp hke
  | some r =>
    rw [hl, coh_some] at hcoh
    rw [hcoh.1, hcoh.2.2 (hcl r (by rw [← hm1]; exact hl)) e hp hke]

include L hn ht in
/-- **Reads observe the latest write across graceful restarts**, either policy, given a side invariant `J` of the
history that makes memory clean when the store closes. -/
theorem reads_from_restarts (J : HState σ → Prop) (hJ : ∀ s op, J s → J (step P hc s op).1)
    (hcl : ∀ tr s, J s → HB P hc Ok k tr s → ∀ r, Cache.lookup hc.mcfg (closingMem P hc s.mem) k = some r → Clean hc r) :
    ∀ (ops : List HOp) (tr : Option Nat) (s : HState σ), HB P hc Ok k tr s → RB hc (hc.mcfg.H k) s → J s →
      (∀ op ∈ ops, okOpR k op) → readsOk P hc k tr s ops := by
  intro ops tr s hb rb hj
  refine readsOk_of_inv (Inv := fun tr s => HB P hc Ok k tr s ∧ RB hc (hc.mcfg.H k) s ∧ J s) ?_ ops tr s ⟨hb, rb, hj⟩
  intro tr s op ⟨hb, rb, hj⟩ hok
  rcases hok with hop | hre
  · obtain ⟨h1, h2⟩ := hb_step L hn hb op hop
    exact ⟨⟨h1, rb_step P hc _ rb ht hb.idle op (okOp_quiet hop), hJ s op hj⟩, h2⟩
  · have hre := isReopen_eq hre
    subst hre
    obtain ⟨w, hh⟩ := hinv_reopen L hn ht hb.toHInv rb (hcl tr s hj hb)
    exact ⟨⟨hb_flush w hh, rb_step P hc _ rb ht hb.idle .reopen trivial, hJ s .reopen hj⟩, trivial⟩

end

section
variable {σ : Type} (P : Policy σ) (hc : HCfg) (Ok : σ → Prop) (L : Lawful P Ok) (hn : 0 < hc.mcfg.nshards)
  (hw : hc.woi = true) (ht : hc.tombLog = true) (k : Nat)

include L hn hw ht in
/-- **C01 / C15 (write-on-insertion, tombstone log on): reads observe the latest write across any number of
graceful restarts.** -/
theorem woi_reads_truth_reopen (memcap : Nat) (ops : List HOp) (hok : ∀ op ∈ ops, okOpR k op) :
    readsOk P hc k none (init P hc memcap) ops :=
  reads_from_restarts L hn ht (fun _ => True) (fun _ _ _ => trivial) (fun _ _ _ _ _ _ => Or.inl hw) ops none _
    (hb_init L memcap) (rb_init memcap) trivial hok

end
section
variable {σ : Type} (P : Policy σ) (hc : HCfg) (Ok : σ → Prop) (L : Lawful P Ok) (hn : 0 < hc.mcfg.nshards)
  (he : hc.woi = false) (ht : hc.tombLog = true) (hf : hc.foc = true) (k : Nat)

/-- what the closing flush has to achieve for `k` (a property of the eviction policy and the weights: `flush`
evicts down to usage 0): afterwards memory does not hold `k`.  Assumed by `woe_reads_truth_reopen_partial`;
on the implementation it is what the C15 monitor clause `resident_entry_lost_by_close` checks. -/
def FlushDrops : Prop :=
  ∀ c : Cache σ, CacheInv P Ok hc.mcfg c → c.held = [] → Cache.lookup hc.mcfg (Cache.step P hc.mcfg c .flush).1 k = none

include L hn he ht hf in
/-- **C01 / C15 (write-on-eviction with flush-on-close, tombstone log on)** — partial: under the assumption that
the closing flush takes `k` out of memory (`FlushDrops`), reads observe the latest write across any number of
graceful restarts.  Everything else (the flushed record reaches the device before close returns, recovery
shows it, removed keys stay removed) is proved. -/
theorem woe_reads_truth_reopen_partial (hfd : FlushDrops P hc Ok k) (memcap : Nat) (ops : List HOp)
    (hok : ∀ op ∈ ops, okOpR k op) : readsOk P hc k none (init P hc memcap) ops := by
  refine reads_from_restarts L hn ht (fun _ => True) (fun _ _ _ => trivial) ?_ ops none _
    (hb_init L memcap) (rb_init memcap) trivial hok
  intro tr s _ hb r hr
  rw [closingMem_foc hf, hfd s.mem hb.cinv hb.nohandle] at hr
  cases hr

end
end Foyer.Hyb

namespace Foyer.Hyb.DemoReopen
open Foyer Foyer.Hyb

def hcfg : HCfg := { woi := true, foc := true, tombLog := true, mcfg := { nshards := 1, H := fun k => k % 2 } }

def ops : List HOp :=
  [.ins 0 1 .default false, .reopen, .get 0, .ins 0 2 .default false, .ins 2 3 .default false, .reopen, .get 0,
   .ins 0 4 .default false, .rm 0, .reopen, .get 0, .ins 0 5 .default false, .ins 0 6 .default true, .reopen, .get 0,
   .ins 0 7 .default false, .lose 0, .reopen, .get 0, .fetch 0 8, .reopen, .get 0]

instance (k : Nat) : DecidablePred (okOpR k) := fun op => by unfold okOpR; infer_instance

def rets : HState Fifo → List HOp → List HRet
  | _, [] => []
  | s, op :: ops => (step fifoPolicy hcfg s op).2 :: rets (step fifoPolicy hcfg s op).1 ops

example : readsOk fifoPolicy hcfg 0 none (init fifoPolicy hcfg 4) ops :=
  woi_reads_truth_reopen fifoPolicy hcfg _ fifo_lawful (by decide) rfl rfl 0 4 ops (by decide)

end Foyer.Hyb.DemoReopen
