import FoyerProofs.C01
/-
  C04, model level — **recovery from any prefix of the device log and of the tombstone log**.  The model's
  device log (`disk`) and tombstone log (`tombs`) are append-only lists in write order; a crash leaves a prefix of
  each (`disk.take i`, `tombs.take j`, for *any* `i`, `j` — a superset of the crash points the implementation can
  produce).  The theorems hold for arbitrary lists, hence for every such pair of prefixes.
-/
namespace Foyer.Hyb
open Foyer

/-- what is served after a crash was written before the crash -/
theorem crash_recovers_written (disk : List DiskEnt) (tombs : List (Nat × Nat)) (i j h : Nat) (e : DiskEnt)
    (hr : indexAddr (recover (disk.take i) (tombs.take j)) h = some e) : e ∈ disk ∧ e.hash = h := by
  obtain ⟨a1, a2, _, _⟩ := recovery_picks_latest _ _ h e hr
  exact ⟨List.mem_of_mem_take a1, a2⟩

/-- **A write acknowledged before the crash is never replaced by an older one.** -/
theorem crash_acked_or_newer (disk : List DiskEnt) (tombs : List (Nat × Nat)) (i j h : Nat) (e : DiskEnt)
    (he : e ∈ disk.take i) (heh : e.hash = h) :
    (∃ e', indexAddr (recover (disk.take i) (tombs.take j)) h = some e' ∧ e' ∈ disk ∧ e.seq ≤ e'.seq) ∨
    (∃ q, (h, q) ∈ tombs ∧ e.seq ≤ q) := by
  rcases recovery_monotone (disk.take i) (tombs.take j) h e he heh with ⟨e', h1, h2⟩ | ⟨q, h1, h2⟩
  · left; exact ⟨e', h1, (crash_recovers_written disk tombs i j h e' h1).1, h2⟩
  · right; exact ⟨q, List.mem_of_mem_take h1, h2⟩

/-- **A delete logged before the crash survives it**, as long as no newer copy of the hash reached the device. -/
theorem crash_delete_survives (disk : List DiskEnt) (tombs : List (Nat × Nat)) (i j h q : Nat)
    (hq : (h, q) ∈ tombs.take j) (hold : ∀ e ∈ disk.take i, e.hash = h → e.seq < q) :
    indexAddr (recover (disk.take i) (tombs.take j)) h = none :=
  recovery_honours_tombstones _ _ h q hq hold

/-! non-vacuity: a device log with an overwrite and a delete; crash before / after the second write -/
example : indexAddr (recover (([{ key := 1, hash := 1, ver := 10, seq := 1 }, { key := 1, hash := 1, ver := 11, seq := 2 }] : List DiskEnt).take 1)
    (([] : List (Nat × Nat)).take 0)) 1 = some { key := 1, hash := 1, ver := 10, seq := 1 } := by decide
example : indexAddr (recover (([{ key := 1, hash := 1, ver := 10, seq := 1 }, { key := 1, hash := 1, ver := 11, seq := 2 }] : List DiskEnt).take 2)
    (([(1, 3)] : List (Nat × Nat)).take 0)) 1 = some { key := 1, hash := 1, ver := 11, seq := 2 } := by decide
example : indexAddr (recover (([{ key := 1, hash := 1, ver := 10, seq := 1 }, { key := 1, hash := 1, ver := 11, seq := 2 }] : List DiskEnt).take 2)
    (([(1, 3)] : List (Nat × Nat)).take 1)) 1 = none := by decide

end Foyer.Hyb
