import FoyerProofs.C02
/-
  C17 — Hash collisions between distinct keys never alias their entries (memory tier).

  The in-memory index is keyed by the full key; the hash only selects the shard (and feeds the
  S3-FIFO ghost set / the TinyLFU sketch, which influence *which* entry is evicted, never *what* a
  lookup returns).  All theorems hold for an arbitrary hasher `cfg.H` — including a constant one.
  The disk-tier part (index by hash, key check after load) is in `FoyerProofs/C01.lean` /
  the hybrid correspondence.
-/
namespace Foyer.C17

variable {σ : Type} {P : Policy σ} {Ok : σ → Prop}

/-- A lookup answers with an entry of the requested key (carrying the value of its latest
not-superseded insert — `C02.reads_latest`) or with a miss; never with another key's entry. -/
theorem mem_own_key_or_miss (L : Lawful P Ok) (cfg : Cfg) (hn : 0 < cfg.nshards) (cap : Nat) (k : Nat) (ops : List Op) :
    let r := Cache.run P cfg (Cache.new P cfg cap) ops
    (Cache.lookup cfg r.1 k = none ∨ Cache.lookup cfg r.1 k = regRun k ops r.2 none) ∧
    (∀ x, Cache.lookup cfg r.1 k = some x → x.key = k) := by
  exact ⟨C02.reads_latest L cfg hn cap k ops, fun _ hx => lookup_key hx⟩

/-- The register of key `k` is not affected by operations on another key `k'`, whatever their
hashes: inserting / removing / looking up `k'` leaves `regStep k` unchanged. -/
theorem mem_colliding_keys_independent (k k' : Nat) (hne : k' ≠ k) (cur : Option Rec) (out : Out)
    (v w : Nat) (h : Hint) (p : Bool) :
    regStep k cur (.ins k' v w h p) out = cur ∧ regStep k cur (.remove k') out = cur ∧
    regStep k cur (.get k') out = cur ∧ regStep k cur (.touch k') out = cur := by
  simp [regStep, hne]

-- two keys with the same 64-bit hash coexist and are answered separately
namespace Demo
def cfg : Cfg := { nshards := 3, H := fun _ => 42 }
def ops : List Op := [.ins 5 1 1 .normal false, .ins 9 2 1 .normal false, .remove 5]
example : (Cache.lookup cfg (Cache.run fifoPolicy cfg (Cache.new fifoPolicy cfg 9) ops).1 9).map (fun r => (r.key, r.ver)) = some (9, 2) := by decide
example : Cache.lookup cfg (Cache.run fifoPolicy cfg (Cache.new fifoPolicy cfg 9) ops).1 5 = none := by decide
end Demo

end Foyer.C17
