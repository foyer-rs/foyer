import FoyerProofs.Lemmas.LawfulFifo
import FoyerProofs.Lemmas.LawfulLru
import FoyerProofs.Lemmas.LawfulSieve
import FoyerProofs.Lemmas.LawfulS3
import FoyerProofs.Lemmas.LawfulLfu
/-
  C14 — Victims are chosen as the configured eviction algorithm prescribes.

  The five algorithm models (`FoyerModel/Policies/*`) are *functions* of the operation sequence
  (determinism is definitional) and are compared victim-by-victim with the implementation by the
  algorithm-mode correspondence.  Here: each model obeys the `Eviction` contract (so every generic
  theorem of C05/C13/C18/C02/C17 applies to it), and the rules the property names hold of it.
-/
namespace Foyer.C14

theorem fifo_lawful : Lawful fifoPolicy (fun s => idsNodup s.q) := Foyer.fifo_lawful
theorem lru_lawful (capFn : Nat → Nat) :
    Lawful (lruPolicy capFn) (fun s => LruI s ∧ idsNodup ((lruPolicy capFn).members s)) := Foyer.lru_lawful capFn
theorem sieve_lawful : Lawful sievePolicy (fun s => True ∧ idsNodup (sievePolicy.members s)) :=
  Lawful.ofPerm sieve_permLaws fun _ => Iff.rfl
theorem s3fifo_lawful (sf gf : Nat → Nat) (t : Nat) :
    Lawful (s3Policy sf gf t) (fun s => True ∧ idsNodup ((s3Policy sf gf t).members s)) :=
  Lawful.ofPerm (s3_permLaws sf gf t) fun _ => Iff.rfl
theorem lfu_lawful (wf pf : Nat → Nat) (k : SketchCfg) :
    Lawful (lfuPolicy wf pf k) (fun s => True ∧ idsNodup ((lfuPolicy wf pf k).members s)) :=
  Lawful.ofPerm (lfu_permLaws wf pf k) fun _ => Iff.rfl

def popAll {σ : Type} (P : Policy σ) : Nat → σ → List Rec
  | 0, _ => []
  | n + 1, s => match P.pop s with
    | none => []
    | some (r, s') => r :: popAll P n s'

theorem fifo_pop_cons (r : Rec) (rs : List Rec) : fifoPolicy.pop { q := r :: rs } = some (r, { q := rs }) := rfl
theorem fifo_push_eq (s : Fifo) (r : Rec) : fifoPolicy.push s r = { q := s.q ++ [r] } := rfl

theorem fifo_popAll (q : List Rec) {n : Nat} (hn : q.length ≤ n) : popAll fifoPolicy n { q := q } = q := by
  induction q generalizing n with
  | nil => cases n <;> rfl
  | cons r rs ih =>
    obtain ⟨n, rfl⟩ := Nat.exists_eq_add_one_of_ne_zero (Nat.ne_zero_of_lt hn)
    exact congrArg (r :: ·) (ih (Nat.le_of_succ_le_succ hn))

theorem fifo_foldl_push (q rs : List Rec) : rs.foldl fifoPolicy.push { q := q } = { q := q ++ rs } := by
  induction rs generalizing q with
  | nil => rw [List.append_nil]; rfl
  | cons r rs ih => rw [List.foldl_cons, fifo_push_eq, ih, List.append_assoc]; rfl

/-- Pushing `rs` (in this order) into an empty FIFO and then evicting everything yields `rs`. -/
theorem fifo_evicts_in_insertion_order (rs : List Rec) (cap : Nat) :
    popAll fifoPolicy rs.length (rs.foldl fifoPolicy.push (fifoPolicy.init cap)) = rs :=
  (congrArg _ (fifo_foldl_push [] rs)).trans (fifo_popAll rs (Nat.le_refl _))

/-- A record that was looked up and is still held (it sits in the pin list) is never the victim. -/
theorem lru_never_pops_pinned (capFn : Nat → Nat) (s : Lru) (r : Rec) (s' : Lru)
    (hn : idsNodup ((lruPolicy capFn).members s)) (hp : (lruPolicy capFn).pop s = some (r, s')) :
    r ∉ s.pin.map (·.r) ∧ s'.pin = s.pin := by
  have hd : ∀ e ∈ s.low ++ s.high, e.r ∉ s.pin.map (·.r) := fun e he hp =>
    (idsNodup_append.mp (List.map_append .. ▸ hn)).2.2 e.r (List.mem_map_of_mem he) e.r hp rfl
  obtain ⟨e, rest, rfl, ⟨hl, rfl⟩ | ⟨_, hh, rfl⟩⟩ := lru_pop_some hp
  · exact ⟨hd e (List.mem_append_left _ (hl ▸ List.mem_cons_self)), rfl⟩
  · exact ⟨hd e (List.mem_append_right _ (hh ▸ List.mem_cons_self)), rfl⟩

/-- Low-priority entries go first, each pool in least-recently-released order (front of the list). -/
theorem lru_low_before_high (capFn : Nat → Nat) (s : Lru) :
    (∀ e rest, s.low = e :: rest → ∃ s', (lruPolicy capFn).pop s = some (e.r, s') ∧ s'.low = rest ∧ s'.high = s.high) ∧
    (s.low = [] → ∀ e rest, s.high = e :: rest → ∃ s', (lruPolicy capFn).pop s = some (e.r, s') ∧ s'.high = rest) ∧
    (s.low = [] → s.high = [] → (lruPolicy capFn).pop s = none) := by
  refine ⟨fun e rest h => ⟨{ s with low := rest }, ?_, rfl, rfl⟩,
    fun hl e rest h => ⟨{ s with high := rest, hw := s.hw - e.r.weight }, ?_, rfl⟩, fun hl hh => ?_⟩
  · simp only [lruPolicy, h]
  · simp only [lruPolicy, hl, h]
  · simp only [lruPolicy, hl, hh]

/-- The high-priority pool never keeps more than its configured share: after every operation the
(unpinned) weight of the high-priority list is within `⌊capacity · ratio⌋`. -/
theorem lru_high_pool_bounded (capFn : Nat → Nat) (s : Lru) (hi : LruI s) (hb : s.hw ≤ s.hpCap) :
    (∀ r, ((lruPolicy capFn).push s r).hw ≤ ((lruPolicy capFn).push s r).hpCap) ∧
    (∀ r, ((lruPolicy capFn).release s r).hw ≤ ((lruPolicy capFn).release s r).hpCap) ∧
    (∀ c, ((lruPolicy capFn).update s c).hw ≤ ((lruPolicy capFn).update s c).hpCap) ∧
    (∀ r, ((lruPolicy capFn).acquire s r).hw ≤ ((lruPolicy capFn).acquire s r).hpCap) ∧
    (∀ r s', (lruPolicy capFn).pop s = some (r, s') → s'.hw ≤ s'.hpCap) := by
  refine ⟨fun r => ?_, fun r => ?_, fun c => withOverflow_bounded (hi.frame s.pin (capFn c)),
    fun r => ?_, fun r s' hp => ?_⟩
  · dsimp only [lruPolicy]
    split
    · exact withOverflow_bounded (hi.push_high rfl _)
    · exact hb
  · dsimp only [lruPolicy]
    split
    · exact hb
    · split
      · rename_i hflag; exact withOverflow_bounded (hi.push_high hflag _)
      · exact hb
  · dsimp only [lruPolicy]
    split
    · exact Nat.le_trans (Nat.sub_le _ _) hb
    · split <;> exact hb
  · obtain ⟨e, rest, rfl, ⟨_, rfl⟩ | ⟨_, _, rfl⟩⟩ := lru_pop_some hp
    · exact hb
    · exact Nat.le_trans (Nat.sub_le _ _) hb

/-- The victim of SIEVE is an entry whose visited bit is clear at the moment of eviction. -/
theorem sieve_victim_unvisited (s : Sieve) (r : Rec) (s' : Sieve) (hp : sievePolicy.pop s = some (r, s')) :
    ∃ (i : Nat) (q' : List SieveEnt) (e : SieveEnt), q'.map (·.r) = s.q.map (·.r) ∧ q'[i]? = some e ∧
      e.r = r ∧ e.visited = false ∧ s'.q = q'.eraseIdx i ∧ s'.hand = (q'[i + 1]?).map (·.r.id) :=
  sieve_pop_some hp

/-- The eviction procedure (small → main promotion, main re-insertion while the frequency is
positive, forced eviction from small) terminates and fails only on an empty policy. -/
theorem s3fifo_evict_total (s : S3) : s.evict = none → s.small = [] ∧ s.main = [] :=
  (s3_evict_spec s).2

/-- Ghost admission: a record whose hash is in the ghost set goes straight to `main`, any other to
`small`; its frequency starts at 0. -/
theorem s3fifo_push_rule (sf gf : Nat → Nat) (t : Nat) (s : S3) (r : Rec) :
    (s.ghost.set.contains r.hash = true →
      ((s3Policy sf gf t).push s r).main = s.main ++ [{ r := r, freq := 0 }] ∧ ((s3Policy sf gf t).push s r).small = s.small) ∧
    (s.ghost.set.contains r.hash = false →
      ((s3Policy sf gf t).push s r).small = s.small ++ [{ r := r, freq := 0 }] ∧ ((s3Policy sf gf t).push s r).main = s.main) := by
  constructor
  · intro h
    simp only [s3Policy, h]
    exact ⟨rfl, rfl⟩
  · intro h
    simp only [s3Policy, h]
    exact ⟨rfl, rfl⟩

/-- With candidates at the front of both `window` and `probation`, the one with the *lower* sketch
estimate is evicted (ties evict the probation candidate); `protected` is touched only when both
are empty. -/
theorem lfu_pop_rule (wf pf : Nat → Nat) (k : SketchCfg) (s : Lfu) :
    (∀ w ws p ps, s.window = w :: ws → s.probation = p :: ps →
      ∃ s', (lfuPolicy wf pf k).pop s =
        some (if cmEstimate k s.counts w.hash < cmEstimate k s.counts p.hash then w else p, s')) ∧
    (s.window = [] → s.probation = [] → ∀ t ts, s.prot = t :: ts → ∃ s', (lfuPolicy wf pf k).pop s = some (t, s')) := by
  constructor
  · intro w ws p ps hw hp
    simp only [lfuPolicy, hw, hp]
    split
    · exact ⟨_, rfl⟩
    · exact ⟨_, rfl⟩
  · intro hw hp t ts ht
    simp only [lfuPolicy, hw, hp, ht]
    exact ⟨_, rfl⟩

example : popAll fifoPolicy 3 ([({ id := 0, key := 0, hash := 0, ver := 1, weight := 1 } : Rec), { id := 1, key := 1, hash := 1, ver := 1, weight := 1 }].foldl fifoPolicy.push (fifoPolicy.init 9))
    = [{ id := 0, key := 0, hash := 0, ver := 1, weight := 1 }, { id := 1, key := 1, hash := 1, ver := 1, weight := 1 }] := by decide

/-- An LRU state with a pinned record, satisfying the invariant, from which `pop` succeeds. -/
example : ∃ s r s', LruI s ∧ s.pin ≠ [] ∧ (lruPolicy (fun c => c)).pop s = some (r, s') :=
  ⟨{ high := [], low := [⟨{ id := 1, key := 1, hash := 1, ver := 1, weight := 1, hint := .low }, false⟩],
     pin := [⟨{ id := 0, key := 0, hash := 0, ver := 1, weight := 1 }, true⟩], hw := 0, hpCap := 5 },
   _, _, ⟨rfl, by simp, by simp⟩, by simp, rfl⟩

end Foyer.C14
