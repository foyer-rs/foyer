import FoyerProofs.Lemmas.CacheInv
import FoyerProofs.Lemmas.LawfulFifo
/-
  C05 — Memory usage accounting is exact and capacity-bounded without over-eviction.

  Everything is proved for an arbitrary *lawful* eviction policy `P` (FIFO, LRU, LFU, S3-FIFO and SIEVE are each
  proved lawful in `FoyerProofs/C14.lean`), an arbitrary hasher `cfg.H`, any number of shards
  `cfg.nshards > 0`, any capacity, arbitrary weights and every operation sequence.
-/
namespace Foyer.C05

variable {σ : Type} {P : Policy σ} {Ok : σ → Prop}

/-- Shard capacities add up to the configured capacity (`RawCache::shard_capacity_for`). -/
theorem caps_sum (total n : Nat) (hn : 0 < n) :
    ((List.range n).map (shardCapacityFor total n)).sum = total := by
  have key : ∀ m, m ≤ n →
      ((List.range m).map (shardCapacityFor total n)).sum = m * (total / n) + min m (total % n) := by
    intro m
    induction m with
    | zero => intro _; simp
    | succ m ih =>
      intro hm
      rw [List.range_succ, List.map_append, List.sum_append, ih (by omega)]
      simp only [List.map_cons, List.map_nil, List.sum_cons, List.sum_nil, shardCapacityFor]
      have hmod : total % n < n := Nat.mod_lt _ hn
      split
      · rw [Nat.succ_mul]; omega
      · rw [Nat.succ_mul]; omega
  rw [key n (Nat.le_refl _)]
  have hmod : total % n < n := Nat.mod_lt _ hn
  have := Nat.div_add_mod total n
  rw [Nat.min_eq_right (Nat.le_of_lt hmod)]
  exact this

/-- A freshly built cache has exactly the configured capacity. -/
theorem new_capacity (cfg : Cfg) (hn : 0 < cfg.nshards) (cap : Nat) :
    Cache.capacity (Cache.new P cfg cap) = cap := by
  simp only [Cache.capacity, Cache.new, List.map_map]
  have : ((fun (s : Shard σ) => s.cap) ∘ fun i => Shard.new P (shardCapacityFor cap cfg.nshards i))
      = shardCapacityFor cap cfg.nshards := by
    funext i; simp [Shard.new]
  rw [this]
  exact caps_sum cap cfg.nshards hn

private theorem usage_sum (l : List (Shard σ)) (h : ∀ s ∈ l, s.usage = wsum s.index ∧ s.entries = s.index.length) :
    (l.map (·.usage)).sum = wsum (l.flatMap (·.index)) ∧
    (l.map (·.entries)).sum = (l.flatMap (·.index)).length := by
  induction l with
  | nil => simp [wsum]
  | cons s ss ih =>
    have hs := h s List.mem_cons_self
    have := ih (fun t ht => h t (List.mem_cons_of_mem _ ht))
    simp only [List.map_cons, List.sum_cons, List.flatMap_cons, wsum_append, List.length_append]
    omega

/-- **usage_exact**: in every reachable state `usage()` is the summed weight of the entries a
lookup can still find, and `entries()` is their number. -/
theorem usage_exact_inv {cfg : Cfg} {c : Cache σ} (hc : CacheInv P Ok cfg c) :
    Cache.usage c = wsum c.findable ∧ Cache.entries c = c.findable.length := by
  apply usage_sum
  intro s hs
  obtain ⟨i, hi, rfl⟩ := List.getElem_of_mem hs
  have h := hc.shard i c.shards[i] (List.getElem?_eq_getElem hi)
  exact ⟨h.usage_eq, h.entries_eq⟩

theorem findable_iff_lookup {cfg : Cfg} {c : Cache σ} (hc : CacheInv P Ok cfg c) (r : Rec) :
    r ∈ c.findable ↔ Cache.lookup cfg c r.key = some r :=
  ⟨lookup_of_findable hc, findable_of_lookup⟩

/-- **usage_exact**, for every operation sequence from a fresh cache. -/
theorem usage_exact (L : Lawful P Ok) (cfg : Cfg) (hn : 0 < cfg.nshards) (cap : Nat) (ops : List Op) :
    let c := (Cache.run P cfg (Cache.new P cfg cap) ops).1
    Cache.usage c = wsum c.findable ∧ Cache.entries c = c.findable.length ∧
    ∀ r, r ∈ c.findable ↔ Cache.lookup cfg c r.key = some r := by
  have hc := run_inv L hn ops _ (new_inv L cfg cap)
  exact ⟨(usage_exact_inv hc).1, (usage_exact_inv hc).2, findable_iff_lookup hc⟩

/-- **evict_minimal / insert_bound**: an insert evicts only while `usage + weight > capacity`
(the copy being replaced still counts), never hits an `unwrap`, and afterwards the shard is within
capacity unless the policy has nothing left to pop or the new entry alone exceeds the shard. -/
theorem insert_evicts_minimally (L : Lawful P Ok) {cfg : Cfg} {c : Cache σ}
    (hc : CacheInv P Ok cfg c) (key ver weight : Nat) (hint : Hint) (loc : Loc) (age : Age) (s : Shard σ)
    (hs : c.shards[cfg.shardOf (cfg.H key)]? = some s) :
    let res := Cache.step P cfg c (.ins key ver weight hint false loc age)
    res.2.ret ≠ Ret.panic ∧
    ∃ (vs : List Rec) (repl : List (Reason × Rec)) (s1 s' : Shard σ),
      res.2.leaves = vs.map (fun v => (Reason.evict, v)) ++ repl ∧
      (repl = [] ∨ ∃ old, repl = [(Reason.replace, old)] ∧ old.key = key ∧ old ∈ s.index) ∧
      (∀ v ∈ vs, v ∈ s.index) ∧
      -- every eviction was necessary
      (∀ pre v post, vs = pre ++ v :: post → s.usage - wsum pre + weight > s.cap) ∧
      -- the loop stopped only when it could
      (s1.usage + wsum vs = s.usage) ∧ (s1.usage + weight ≤ s.cap ∨ s.cap < weight ∨ P.pop s1.ev = none) ∧
      res.1.shards[cfg.shardOf (cfg.H key)]? = some s' ∧ s'.cap = s.cap ∧
      (s'.usage ≤ s.cap ∨ s.cap < weight ∨ P.pop s1.ev = none) := by
  obtain ⟨hp, vs, repl, s1, h1, h2, h3, h4, h5, h6, h7, h8⟩ :=
    emplace_minimal (r := { id := c.nextId, key, hash := cfg.H key, ver, weight, hint, phantom := false, loc, age })
      L (hc.shard _ s hs) rfl fun x hx => Nat.ne_of_lt (hc.fresh _ s hs x hx)
  have hlen : cfg.shardOf (cfg.H key) < c.shards.length := (List.getElem?_eq_some_iff.mp hs).1
  rw [step_ins P hs rfl]
  exact ⟨by simp [hp], vs, repl, s1, _, h1, h2, h3, h4, h5, h6, by simp [setAt_eq_set, hlen], h7, h8⟩

/-- **phantom_neutral**: a disk-only (phantom) insert evicts nothing and does not increase usage. -/
theorem phantom_neutral (L : Lawful P Ok) {cfg : Cfg} {c : Cache σ}
    (hc : CacheInv P Ok cfg c) (key ver weight : Nat) (hint : Hint) (loc : Loc) (age : Age) (s : Shard σ)
    (hs : c.shards[cfg.shardOf (cfg.H key)]? = some s) :
    let res := Cache.step P cfg c (.ins key ver weight hint true loc age)
    res.2.piped = [] ∧ (∀ e x, (e, x) ∈ res.2.leaves → e ≠ Reason.evict) ∧
    ∃ s', res.1.shards[cfg.shardOf (cfg.H key)]? = some s' ∧ s'.usage ≤ s.usage ∧ s'.cap = s.cap := by
  obtain ⟨hne, hu, hcap⟩ :=
    emplace_phantom_neutral (r := { id := c.nextId, key, hash := cfg.H key, ver, weight, hint, phantom := true, loc, age })
      L (hc.shard _ s hs) rfl
  have hlen : cfg.shardOf (cfg.H key) < c.shards.length := (List.getElem?_eq_some_iff.mp hs).1
  rw [step_ins P hs rfl]
  exact ⟨evictedOf_eq_nil fun x hx he => hne x.2 (by rw [← he]; exact hx), fun e x hx he => hne x (he ▸ hx), _,
    by simp [setAt_eq_set, hlen], hu, hcap⟩

/-- **clear_zero**: `clear()` leaves usage 0 and no entries, in every shard. -/
theorem clear_zero (cfg : Cfg) (c : Cache σ) :
    let c' := (Cache.step P cfg c .clear).1
    Cache.usage c' = 0 ∧ Cache.entries c' = 0 ∧ c'.findable = [] := by
  simp only [Cache.usage, Cache.entries, Cache.findable, step_clear_shards, List.map_map, Function.comp_def,
    List.map_const', List.sum_replicate_nat, Nat.mul_zero, List.flatMap_map, true_and]
  exact List.flatMap_eq_nil_iff.mpr fun _ _ => rfl

/-- **resize_bound**: after `resize(n)` the shard capacities add up to `n` and every shard is within
its new capacity unless its policy has nothing left to pop; no eviction happened that was not
needed. -/
theorem resize_bound (L : Lawful P Ok) {cfg : Cfg} (hn : 0 < cfg.nshards) {c : Cache σ}
    (hc : CacheInv P Ok cfg c) (n : Nat) :
    let c' := (Cache.step P cfg c (.resize n)).1
    Cache.capacity c' = n ∧
    ∀ (i : Nat) (s' : Shard σ), c'.shards[i]? = some s' →
      s'.cap = shardCapacityFor n cfg.nshards i ∧ (s'.usage ≤ s'.cap ∨ P.pop s'.ev = none) := by
  have hshard : ∀ (i : Nat) (s' : Shard σ), (Cache.step P cfg c (.resize n)).1.shards[i]? = some s' →
      s'.cap = shardCapacityFor n cfg.nshards i ∧ (s'.usage ≤ s'.cap ∨ P.pop s'.ev = none) := by
    intro i s' h
    rw [step_resize_getElem?] at h
    cases hs : c.shards[i]? with
    | none => rw [hs] at h; cases h
    | some s =>
      rw [hs] at h; cases h
      have hsi := hc.shard i s hs
      have es := evict_spec L (update_moves L hsi (shardCapacityFor n c.shards.length i)).inv
        (shardCapacityFor n c.shards.length i)
      rw [hc.len] at es ⊢
      exact ⟨es.cap_eq, es.done.imp_left fun h => by rw [es.cap_eq]; exact h⟩
  refine ⟨?_, hshard⟩
  have hcaps : (Cache.step P cfg c (.resize n)).1.shards.map (·.cap) =
      (List.range cfg.nshards).map (shardCapacityFor n cfg.nshards) := by
    apply List.ext_getElem?
    intro i
    rw [List.getElem?_map, List.getElem?_map]
    cases hs : c.shards[i]? with
    | none =>
      have hi : cfg.nshards ≤ i := hc.len ▸ List.getElem?_eq_none_iff.mp hs
      rw [step_resize_getElem?, hs, List.getElem?_eq_none_iff.mpr (by simpa using hi)]
      rfl
    | some s =>
      have hi : i < cfg.nshards := hc.len ▸ (List.getElem?_eq_some_iff.mp hs).1
      obtain ⟨s', hs'⟩ : ∃ s', (Cache.step P cfg c (.resize n)).1.shards[i]? = some s' := by
        rw [step_resize_getElem?, hs]; exact ⟨_, rfl⟩
      rw [hs', List.getElem?_range hi]
      exact congrArg some (hshard i s' hs').1
  show ((Cache.step P cfg c (.resize n)).1.shards.map (·.cap)).sum = n
  rw [hcaps]
  exact caps_sum n cfg.nshards hn

/-- No operation of any sequence ever reaches an `unwrap()` / `assert!` of the eviction loop. -/
theorem no_panic (L : Lawful P Ok) {cfg : Cfg} (hn : 0 < cfg.nshards) {c : Cache σ}
    (hc : CacheInv P Ok cfg c) (op : Op) : (Cache.step P cfg c op).2.ret ≠ Ret.panic :=
  step_no_panic L hc op

end Foyer.C05

namespace Foyer.C05.Demo

def cfg : Cfg := { nshards := 2, H := fun k => k }
/-- three inserts into shard 0 (capacity 3 of 6): the third one must evict the first -/
def ops : List Op := [.ins 0 1 2 .normal false, .ins 2 2 1 .normal false, .ins 4 3 2 .normal false]

example : ((Cache.run fifoPolicy cfg (Cache.new fifoPolicy cfg 6) ops).2.map fun o => o.leaves.map (·.2.key)) = [[], [], [0]] := by
  decide
example : Cache.usage (Cache.run fifoPolicy cfg (Cache.new fifoPolicy cfg 6) ops).1 = 3 := by decide

/-- `usage_exact` instantiated: the statement is about a state with evictions behind it. -/
example :
    let c := (Cache.run fifoPolicy cfg (Cache.new fifoPolicy cfg 6) ops).1
    Cache.usage c = wsum c.findable ∧ Cache.entries c = c.findable.length :=
  let h := usage_exact fifo_lawful cfg (by decide) 6 ops
  ⟨h.1, h.2.1⟩

/-- `insert_evicts_minimally`'s premise (a reachable state satisfying the invariant, a shard at the
hashed index) is satisfiable. -/
example : ∃ s, (Cache.run fifoPolicy cfg (Cache.new fifoPolicy cfg 6) (ops.take 2)).1.shards[cfg.shardOf (cfg.H 4)]? = some s ∧
    CacheInv fifoPolicy (fun s => idsNodup s.q) cfg (Cache.run fifoPolicy cfg (Cache.new fifoPolicy cfg 6) (ops.take 2)).1 :=
  ⟨_, rfl, run_inv fifo_lawful (by decide) _ _ (new_inv fifo_lawful cfg 6)⟩

end Foyer.C05.Demo
