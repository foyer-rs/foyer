import FoyerProofs.Lemmas.Layout
/-
  C07 — what the flusher writes is exactly what recovery and lookups read back.

  Part 1: the layout specification (`FoyerModel.BlockSpec`, a monotone cursor allocator) keeps every
  block a chain of blobs inside the block; hence all index pages and entries are page aligned, inside
  the block and pairwise disjoint, and the scanner reads a block back exactly.
  Part 2: the splitter model (`Foyer.Blk.split`, a transcription of `Splitter::split` with its split
  context carried across batches) places every entry exactly where the specification does.
-/
namespace Foyer.Blk

/-- Finished blocks and the closed blobs of the current block are chains from offset 0 that end inside the block; the
open blob starts where they end, its entries follow each other behind its index page, and it fits. -/
structure SpecInv (c : LCfg) (sp : Spec) : Prop where
  chain : chained c 0 sp.blobs
  curOff : sp.cur.off = chainEnd c 0 sp.blobs
  curWF : entsFrom c c.I sp.cur.ents
  curFits : sp.cur.ents ≠ [] → sp.cur.off + bsize c sp.cur ≤ c.B
  curIn : sp.cur.off ≤ c.B
  doneOk : ∀ bs ∈ sp.done, chained c 0 bs ∧ chainEnd c 0 bs ≤ c.B

theorem specInv_init (c : LCfg) : SpecInv c {} :=
  ⟨trivial, rfl, trivial, fun h => absurd rfl h, Nat.zero_le _, fun _ h => by cases h⟩

theorem curBlobs_chain {c : LCfg} {sp : Spec} (h : SpecInv c sp) :
    chained c 0 sp.curBlobs ∧ chainEnd c 0 sp.curBlobs ≤ c.B := by
  unfold Spec.curBlobs
  split
  · exact ⟨h.chain, by rw [← h.curOff]; exact h.curIn⟩
  · rename_i hne
    have hne' : sp.cur.ents ≠ [] := by intro e; rw [e] at hne; exact hne rfl
    refine ⟨chained_append h.chain h.curOff hne' h.curWF, ?_⟩
    rw [chainEnd_append, ← h.curOff]
    exact h.curFits hne'

theorem roll_inv {c : LCfg} (w : WF c) {sp : Spec} (h : SpecInv c sp) : SpecInv c (roll c sp) := by
  unfold roll
  split
  · rename_i hfull
    have hne : sp.cur.ents ≠ [] := by
      intro e; rw [e] at hfull; simp at hfull; have := w.hcap; omega
    exact ⟨chained_append h.chain h.curOff hne h.curWF,
           by simp only [chainEnd_append, h.curOff],
           trivial, fun hh => absurd rfl hh, h.curFits hne, h.doneOk⟩
  · exact h

theorem newBlock_inv {c : LCfg} {sp : Spec} (h : SpecInv c sp) : SpecInv c (newBlock sp) := by
  refine ⟨trivial, rfl, trivial, fun hh => absurd rfl hh, Nat.zero_le _, fun bs hbs => ?_⟩
  rcases List.mem_append.mp hbs with hb | hb
  · exact h.doneOk bs hb
  · rw [List.mem_singleton.mp hb]
    exact curBlobs_chain h

theorem pushS_inv {c : LCfg} {sp : Spec} (h : SpecInv c sp) (i : Info)
    (hfit : sp.cur.off + bsize c sp.cur + alignUp c.P i.len ≤ c.B) : SpecInv c (pushS c sp i) := by
  refine ⟨h.chain, h.curOff, entsFrom_append h.curWF rfl, fun _ => ?_, h.curIn, h.doneOk⟩
  simp only [pushS, bsize, esize_append, esize] at hfit ⊢
  omega

theorem placeS_inv {c : LCfg} (w : WF c) {sp : Spec} (h : SpecInv c sp) (i : Info)
    (hfit : c.I + alignUp c.P i.len ≤ c.B) : SpecInv c (placeS c sp i).1 := by
  have h1 := roll_inv w h
  by_cases hov : (roll c sp).cur.off + bsize c (roll c sp).cur + alignUp c.P i.len > c.B
  · rw [placeS_over hov]
    exact pushS_inv (newBlock_inv h1) i (by simp only [newBlock, bsize, esize]; omega)
  · rw [placeS_fit hov]
    exact pushS_inv h1 i (Nat.le_of_not_gt hov)

theorem placeAll_inv {c : LCfg} (w : WF c) : ∀ (is : List Info) (sp : Spec), SpecInv c sp →
    (∀ i ∈ is, c.I + alignUp c.P i.len ≤ c.B) → SpecInv c (placeAll c sp is).1 := by
  intro is
  induction is with
  | nil => intro sp h _; exact h
  | cons i is ih =>
    intro sp h hfit
    simp only [placeAll]
    exact ih _ (placeS_inv w h i (hfit i List.mem_cons_self)) (fun j hj => hfit j (List.mem_cons_of_mem _ hj))

/-- **Every index page and every entry of a block of the specification** starts on a page boundary,
lies inside the block, and overlaps no other index page or entry of that block. -/
theorem block_layout_sound {c : LCfg} (w : WF c) {bs : List Blob} (hc : chained c 0 bs) (hB : chainEnd c 0 bs ≤ c.B) :
    (regions c bs).Pairwise disjoint ∧
    ∀ r ∈ regions c bs, c.P ∣ r.1 ∧ r.1 + r.2 ≤ c.B := by
  have hcon := regions_contig hc
  exact ⟨contig_pairwise hcon, fun r hr => ⟨contig_aligned hcon (Nat.dvd_zero _) (regions_sizes_dvd w bs) r hr,
    Nat.le_trans ((contig_ge hcon).2 r hr).2 hB⟩⟩

/-- … for the current block and every finished block of every reachable specification state. -/
theorem layout_sound {c : LCfg} (w : WF c) (is : List Info) (hfit : ∀ i ∈ is, c.I + alignUp c.P i.len ≤ c.B) :
    let sp := (placeAll c {} is).1
    ∀ bs, (bs = sp.curBlobs ∨ bs ∈ sp.done) →
      (regions c bs).Pairwise disjoint ∧ ∀ r ∈ regions c bs, c.P ∣ r.1 ∧ r.1 + r.2 ≤ c.B := by
  intro sp bs hbs
  have hinv : SpecInv c sp := placeAll_inv w is {} (specInv_init c) hfit
  rcases hbs with h | h
  · subst h
    have := curBlobs_chain hinv
    exact block_layout_sound w this.1 this.2
  · have := hinv.doneOk bs h
    exact block_layout_sound w this.1 this.2

/-- **The scanner reads a block of the specification back exactly**: blob by blob, every entry with
its hash, sequence, position and length, and nothing else. -/
theorem scan_reads_back {c : LCfg} (w : WF c) {bs : List Blob} (hc : chained c 0 bs) (hB : chainEnd c 0 bs ≤ c.B) :
    (scan c (idxMapOf bs) (c.B / c.P + 1) 0).flatten = placedOf bs := by
  have hlen : bs.length < c.B / c.P + 1 := by
    have h1 := chain_length_le w hc
    have h2 : bs.length * c.P ≤ c.B := by omega
    have : bs.length ≤ c.B / c.P := (Nat.le_div_iff_mul_le w.hP).mpr h2
    omega
  rw [scan_chain bs 0 _ (idxMapOf bs) hc (idxAt_idxMapOf w hc) hB (Or.inr (idxAt_none_of_ge w hc (Nat.le_refl _))) hlen]
  simp only [placedOf, List.flatMap]

/-- … and recovery (scan + sequence guard) keeps all of it when the block was written in sequence
order, as the flusher does without reinsertion. -/
theorem recover_reads_back {c : LCfg} (w : WF c) {bs : List Blob} (hc : chained c 0 bs) (hB : chainEnd c 0 bs ≤ c.B)
    (hseq : (placedOf bs).Pairwise (fun a b => a.seq ≤ b.seq)) :
    recoverBlock c (idxMapOf bs) = placedOf bs := by
  unfold recoverBlock
  rw [scan_reads_back w hc hB]
  exact guardSeq_sorted (fun _ _ => Nat.zero_le _) hseq


/-- positions of the entries of a batch: (block index within the batch, absolute offset in the block) -/
def emitted : List (List Part) → Nat → List (Nat × Nat)
  | [], _ => []
  | b :: bs, i => (b.flatMap fun p => p.indices.map fun e => (i, p.blobOff + e.off)) ++ emitted bs (i + 1)

/-- … including the entries of the part that is still being assembled -/
def outPos (s : SplitSt) : List (Nat × Nat) :=
  emitted s.blocks 0 ++ s.indices.map fun e => (s.blocks.length - 1, s.ctx.blobOff + e.off)

theorem emitted_append : ∀ (as bs : List (List Part)) (i : Nat),
    emitted (as ++ bs) i = emitted as i ++ emitted bs (i + as.length)
  | [], _, _ => rfl
  | a :: as, bs, i => by
    rw [List.cons_append, emitted, emitted, emitted_append as bs, List.append_assoc, List.length_cons,
      Nat.add_assoc, Nat.add_comm 1]

theorem pushPart_concat : ∀ (as : List (List Part)) (b : List Part) (p : Part),
    pushPart (as ++ [b]) p = as ++ [b ++ [p]]
  | [], _, _ => rfl
  | [a], _, _ => rfl
  | a :: a' :: as, b, p => by
    rw [List.cons_append, List.cons_append, pushPart, ← List.cons_append, pushPart_concat (a' :: as)]
    rfl

theorem pushPart_length {bs : List (List Part)} (h : bs ≠ []) (p : Part) : (pushPart bs p).length = bs.length := by
  obtain ⟨as, b, rfl⟩ := (List.eq_nil_or_concat bs).resolve_left h
  rw [List.concat_eq_append, pushPart_concat, List.length_append, List.length_append]
  rfl

theorem emitted_pushPart {bs : List (List Part)} (h : bs ≠ []) (p : Part) (i : Nat) :
    emitted (pushPart bs p) i = emitted bs i ++ p.indices.map fun e => (i + (bs.length - 1), p.blobOff + e.off) := by
  obtain ⟨as, b, rfl⟩ := (List.eq_nil_or_concat bs).resolve_left h
  rw [List.concat_eq_append, pushPart_concat, emitted_append, emitted_append, List.length_append, List.append_assoc]
  simp only [emitted, List.flatMap_append, List.flatMap_cons, List.flatMap_nil, List.append_nil, List.length_cons,
    List.length_nil, Nat.add_sub_cancel]

/-- The blocks of the batch once the part being assembled is pushed: what `split_blob` and `seal_blob`
do first. -/
def flushed (s : SplitSt) : List (List Part) :=
  if s.indices.isEmpty then s.blocks
  else pushPart s.blocks { blobOff := s.ctx.blobOff, index := s.ctx.idx, partOff := s.ctx.partOff,
                           dataLen := s.partSize, indices := s.indices }

theorem flushed_length {s : SplitSt} (h : s.blocks ≠ []) : (flushed s).length = s.blocks.length := by
  unfold flushed
  split
  · rfl
  · exact pushPart_length h _

theorem emitted_flushed {s : SplitSt} (h : s.blocks ≠ []) : emitted (flushed s) 0 = outPos s := by
  unfold flushed outPos
  split
  · rename_i he
    rw [List.isEmpty_iff.mp he, List.map_nil, List.append_nil]
  · rw [emitted_pushPart h, Nat.zero_add]

/-- `split_blob` has one outcome for both of its branches, given what its `assert_eq!(*part_size, 0)`
asserts: the next blob starts behind everything allocated so far. -/
theorem splitBlob_eq (c : LCfg) {s : SplitSt} (hpz : s.indices = [] → s.partSize = 0) :
    splitBlob c s = { ctx := { partOff := c.I, idx := [], blobOff := s.ctx.blobOff + s.ctx.partOff + s.partSize },
                      indices := [], partSize := 0, blocks := flushed s } := by
  unfold splitBlob flushed
  split
  · rename_i he
    have he' := List.isEmpty_iff.mp he
    rw [hpz he', ← he']
    rfl
  · rfl

/-- The last branch of the `'handle` loop. -/
def push (c : LCfg) (s : SplitSt) (i : Info) : SplitSt :=
  { s with ctx := { s.ctx with idx := s.ctx.idx ++ [{ hash := i.hash, seq := i.seq, off := s.ctx.partOff + s.partSize, len := i.len }] },
           indices := s.indices ++ [{ hash := i.hash, seq := i.seq, off := s.ctx.partOff + s.partSize, len := i.len }],
           partSize := s.partSize + alignUp c.P i.len }

theorem outPos_push (c : LCfg) (s : SplitSt) (i : Info) :
    outPos (push c s i) = outPos s ++ [(s.blocks.length - 1, s.ctx.blobOff + (s.ctx.partOff + s.partSize))] := by
  unfold outPos push
  rw [List.map_append, List.append_assoc]
  rfl

theorem handle_succ (c : LCfg) (n : Nat) (s : SplitSt) (i : Info) :
    handle c (n + 1) s i =
      if s.ctx.idx.length ≥ c.cap then handle c n (splitBlob c s) i
      else if s.ctx.blobOff + s.ctx.partOff + s.partSize + alignUp c.P i.len > c.B then
        handle c n (splitBlock (splitBlob c s)) i
      else push c s i := rfl

/-- The simulation relation: the splitter's state `s`, which has reported `out` so far in a batch whose
first block is the specification's block number `b0`, against the specification's state `sp`. -/
structure Sim (c : LCfg) (b0 : Nat) (out : List (Nat × Nat)) (s : SplitSt) (sp : Spec) : Prop where
  idx : s.ctx.idx = sp.cur.ents
  off : s.ctx.blobOff = sp.cur.off
  size : s.ctx.partOff + s.partSize = bsize c sp.cur
  /-- with no part under assembly there is no part size (the assertion in `split_blob`), and the blob
  index is not full (the assertion at the top of `Splitter::split`) -/
  pz : s.indices = [] → s.partSize = 0 ∧ ¬ sp.cur.ents.length ≥ c.cap
  lo : b0 ≤ sp.done.length
  len : s.blocks.length = sp.done.length - b0 + 1
  out : outPos s = out

/-- The split context between two batches is a function of the specification's state (rolled: `seal_blob`
closes a full blob at once, the specification when the next entry comes). -/
def ctxOf (c : LCfg) (sp : Spec) : Ctx :=
  { partOff := bsize c (roll c sp).cur, idx := (roll c sp).cur.ents, blobOff := (roll c sp).cur.off }

namespace Sim
variable {c : LCfg} {b0 : Nat} {out : List (Nat × Nat)} {s : SplitSt} {sp : Spec}

theorem ne (h : Sim c b0 out s sp) : s.blocks ≠ [] :=
  List.ne_nil_of_length_eq_add_one h.len

theorem pos (h : Sim c b0 out s sp) : s.ctx.blobOff + s.ctx.partOff + s.partSize = sp.cur.off + bsize c sp.cur := by
  have := h.off; have := h.size; omega

theorem splitBlob (w : WF c) (h : Sim c b0 out s sp) (hfull : sp.cur.ents.length ≥ c.cap) :
    Sim c b0 out (splitBlob c s) (roll c sp) := by
  rw [splitBlob_eq c fun e => (h.pz e).1]
  unfold roll
  rw [if_pos hfull]
  exact ⟨rfl, h.pos, rfl, fun _ => ⟨rfl, Nat.not_le.mpr w.hcap⟩, h.lo, (flushed_length h.ne).trans h.len,
    by rw [← h.out, ← emitted_flushed h.ne]; exact List.append_nil _⟩

theorem newBlock (w : WF c) (h : Sim c b0 out s sp) :
    Sim c b0 out (splitBlock (Blk.splitBlob c s)) (newBlock sp) := by
  rw [splitBlob_eq c fun e => (h.pz e).1]
  refine ⟨rfl, rfl, rfl, fun _ => ⟨rfl, Nat.not_le.mpr w.hcap⟩, ?_, ?_, ?_⟩
  · show b0 ≤ (sp.done ++ [_]).length
    rw [List.length_append]
    exact Nat.le_add_right_of_le h.lo
  · show (flushed s ++ [[]]).length = (sp.done ++ [_]).length - b0 + 1
    rw [List.length_append, List.length_append, flushed_length h.ne, h.len, Nat.sub_add_comm h.lo]
    rfl
  · simp only [outPos, splitBlock, List.map_nil, List.append_nil, emitted_append, emitted, List.flatMap_nil]
    rw [emitted_flushed h.ne, h.out]

theorem push (h : Sim c b0 out s sp) (i : Info) :
    Sim c b0 (out ++ [(sp.done.length - b0, sp.cur.off + bsize c sp.cur)]) (push c s i) (pushS c sp i) := by
  refine ⟨?_, h.off, ?_, fun e => absurd e (List.append_ne_nil_of_right_ne_nil _ (List.cons_ne_nil _ _)), h.lo, h.len, ?_⟩
  · show s.ctx.idx ++ [_] = sp.cur.ents ++ [_]
    rw [h.idx, h.size]
  · show s.ctx.partOff + (s.partSize + alignUp c.P i.len) = c.I + esize c (sp.cur.ents ++ [_])
    rw [esize_append, ← Nat.add_assoc, ← Nat.add_assoc, h.size]
    rfl
  · rw [outPos_push, h.out, h.len, h.off, h.size]
    rfl

/-- the splitter's tests are the specification's tests -/
theorem handle_full (h : Sim c b0 out s sp) (hfull : sp.cur.ents.length ≥ c.cap) (i : Info) (n : Nat) :
    handle c (n + 1) s i = handle c n (Blk.splitBlob c s) i := by
  rw [handle_succ, if_pos (by rw [h.idx]; exact hfull)]

theorem handle_over (h : Sim c b0 out s sp) (hnf : ¬ sp.cur.ents.length ≥ c.cap) {i : Info}
    (hov : sp.cur.off + bsize c sp.cur + alignUp c.P i.len > c.B) (n : Nat) :
    handle c (n + 1) s i = handle c n (splitBlock (Blk.splitBlob c s)) i := by
  rw [handle_succ, if_neg (by rw [h.idx]; exact hnf), if_pos (by rw [h.pos]; exact hov)]

theorem handle_fit (h : Sim c b0 out s sp) (hnf : ¬ sp.cur.ents.length ≥ c.cap) {i : Info}
    (hov : ¬ sp.cur.off + bsize c sp.cur + alignUp c.P i.len > c.B) (n : Nat) :
    handle c (n + 1) s i = Blk.push c s i := by
  rw [handle_succ, if_neg (by rw [h.idx]; exact hnf), if_neg (by rw [h.pos]; exact hov)]

/-- **One entry**: `handle` (with the fuel the model gives it) follows the specification: at most one
`split_blob` for `roll`, at most one `split_blob` + `split_block` for the new block, then the entry: three rounds
of the loop, and after a new block the entry fits by `hfit`, so no fourth is needed. -/
theorem handle (w : WF c) (h : Sim c b0 out s sp) (i : Info) (hfit : c.I + alignUp c.P i.len ≤ c.B) :
    Sim c b0 (out ++ [((placeS c sp i).2.1 - b0, (placeS c sp i).2.2)]) (handle c 4 s i) (placeS c sp i).1 := by
  have h1 : ∃ n s1, Blk.handle c 4 s i = Blk.handle c (n + 2) s1 i ∧ Sim c b0 out s1 (roll c sp) := by
    by_cases hfull : sp.cur.ents.length ≥ c.cap
    · exact ⟨1, _, h.handle_full hfull i 3, h.splitBlob w hfull⟩
    · exact ⟨2, s, rfl, by rw [roll_of_not_full hfull]; exact h⟩
  obtain ⟨n, s1, e, h1⟩ := h1
  have hnf := roll_not_full w sp
  rw [e]
  by_cases hov : (roll c sp).cur.off + bsize c (roll c sp).cur + alignUp c.P i.len > c.B
  · have h2 := h1.newBlock w
    have hfit2 : ¬ (Blk.newBlock (roll c sp)).cur.off + bsize c (Blk.newBlock (roll c sp)).cur + alignUp c.P i.len > c.B := by
      simp only [Blk.newBlock, bsize, esize]; omega
    rw [h1.handle_over hnf hov, h2.handle_fit (Nat.not_le.mpr w.hcap) hfit2, placeS_over hov]
    have := h2.push i
    simp only [Blk.newBlock, List.length_append, List.length_cons, List.length_nil, bsize, esize, Nat.zero_add, Nat.add_zero] at this
    exact this
  · rw [h1.handle_fit hnf hov, placeS_fit hov]
    exact h1.push i

theorem fold (w : WF c) : ∀ (is : List Info) {out : List (Nat × Nat)} {s : SplitSt} {sp : Spec}, Sim c b0 out s sp →
    (∀ i ∈ is, c.I + alignUp c.P i.len ≤ c.B) →
    Sim c b0 (out ++ (placeAll c sp is).2.map fun p => (p.1 - b0, p.2)) (is.foldl (fun s i => Blk.handle c 4 s i) s)
      (placeAll c sp is).1 := by
  intro is
  induction is with
  | nil => intro out s sp h _; simpa only [placeAll, List.map_nil, List.append_nil, List.foldl_nil] using h
  | cons i is ih =>
    intro out s sp h hfit
    have := ih (h.handle w i (hfit i List.mem_cons_self)) fun j hj => hfit j (List.mem_cons_of_mem _ hj)
    simpa only [placeAll, List.map_cons, List.append_assoc, List.cons_append, List.nil_append, List.foldl_cons] using this


theorem start (w : WF c) (sp : Spec) : Sim c sp.done.length [] { ctx := ctxOf c sp } (roll c sp) :=
  ⟨rfl, rfl, rfl, fun _ => ⟨rfl, roll_not_full w sp⟩, Nat.le_of_eq (congrArg List.length (roll_done c sp).symm),
    by rw [roll_done, Nat.sub_self]; rfl, rfl⟩

theorem sealBlob (h : Sim c b0 out s sp) :
    (Blk.sealBlob c s).ctx = ctxOf c sp ∧ emitted (Blk.sealBlob c s).blocks 0 = out := by
  have hb : (Blk.sealBlob c s).blocks = flushed s := by unfold Blk.sealBlob flushed; split <;> rfl
  refine ⟨?_, by rw [hb, emitted_flushed h.ne, h.out]⟩
  unfold Blk.sealBlob ctxOf
  split
  · rename_i he
    obtain ⟨hz, hnf⟩ := h.pz (List.isEmpty_iff.mp he)
    rw [roll_of_not_full hnf, ← h.idx, ← h.off, ← h.size, hz]
    rfl
  · dsimp only
    by_cases hfull : sp.cur.ents.length ≥ c.cap
    · rw [if_pos (by rw [h.idx]; exact hfull), h.pos]
      unfold roll
      rw [if_pos hfull]
      rfl
    · rw [if_neg (by rw [h.idx]; exact hfull), roll_of_not_full hfull, ← h.idx, ← h.off, ← h.size]

end Sim

theorem split_refines {c : LCfg} (w : WF c) (sp : Spec) (is : List Info)
    (hfit : ∀ i ∈ is, c.I + alignUp c.P i.len ≤ c.B) :
    (split c (ctxOf c sp) is).1 = ctxOf c (placeAll c sp is).1 ∧
    emitted (split c (ctxOf c sp) is).2 0 = (placeAll c sp is).2.map fun p => (p.1 - sp.done.length, p.2) := by
  obtain ⟨h1, h2⟩ := ((Sim.start w sp).fold w is hfit).sealBlob
  obtain ⟨e1, e2⟩ := placeAll_roll w sp is
  rw [List.nil_append, e1] at h2
  refine ⟨h1.trans ?_, h2⟩
  unfold ctxOf
  rw [e2]

/-- Run the splitter model over a sequence of batches, collecting the reported positions. -/
def runBatches (c : LCfg) : Ctx → List (List Info) → List (List (Nat × Nat))
  | _, [] => []
  | ctx, is :: rest => emitted (split c ctx is).2 0 :: runBatches c (split c ctx is).1 rest

/-- The same for the specification (block numbers relative to the batch's first block). -/
def specBatches (c : LCfg) : Spec → List (List Info) → List (List (Nat × Nat))
  | _, [] => []
  | sp, is :: rest =>
    (placeAll c sp is).2.map (fun p => (p.1 - sp.done.length, p.2)) :: specBatches c (placeAll c sp is).1 rest

theorem runBatches_eq_specBatches {c : LCfg} (w : WF c) : ∀ (batches : List (List Info)) (sp : Spec),
    (∀ is ∈ batches, ∀ i ∈ is, c.I + alignUp c.P i.len ≤ c.B) →
    runBatches c (ctxOf c sp) batches = specBatches c sp batches
  | [], _, _ => rfl
  | is :: rest, sp, hfit => by
    obtain ⟨h1, h2⟩ := split_refines w sp is (hfit is List.mem_cons_self)
    rw [runBatches, specBatches, h1, h2,
      runBatches_eq_specBatches w rest _ fun js hjs => hfit js (List.mem_cons_of_mem _ hjs)]

/-- **C07 (refinement)**: for every sequence of batches of entries that fit a block, the splitter —
with its context carried from batch to batch — puts every entry exactly where the monotone cursor
allocator puts it.  Together with `layout_sound` and `recover_reads_back`: placements are page
aligned, inside one block, never overlap, and a scan reads them back exactly. -/
theorem splitter_refines_spec {c : LCfg} (w : WF c) (batches : List (List Info))
    (hfit : ∀ is ∈ batches, ∀ i ∈ is, c.I + alignUp c.P i.len ≤ c.B) :
    runBatches c (Ctx.new c) batches = specBatches c {} batches := by
  have h0 : Ctx.new c = ctxOf c {} := by
    unfold ctxOf
    rw [roll_of_not_full (sp := {}) (Nat.not_le.mpr w.hcap)]
    rfl
  rw [h0]
  exact runBatches_eq_specBatches w batches {} hfit

/-! ### non-vacuity: a concrete configuration, and a batch that exercises block and blob splits -/
section Demo
def dc : LCfg := { B := 16384, I := 4096 }
example : WF dc := ⟨by decide, ⟨1, by decide⟩, ⟨4, by decide⟩, by decide, by decide, by decide⟩
def dbatches : List (List Info) :=
  [[⟨1001, 1, 100⟩, ⟨1002, 2, 5000⟩], [⟨1003, 3, 4096⟩, ⟨1004, 4, 12288⟩, ⟨1005, 5, 1⟩]]
example : runBatches dc (Ctx.new dc) dbatches = [[(0, 4096), (0, 8192)], [(1, 4096), (2, 4096), (3, 4096)]] := by decide
example : specBatches dc {} dbatches = [[(0, 4096), (0, 8192)], [(1, 4096), (2, 4096), (3, 4096)]] := by decide
end Demo

end Foyer.Blk
