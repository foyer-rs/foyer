import FoyerProofs.C01Reopen
/-
  C15 / C01 — **the write-on-eviction refinement across graceful restarts without further assumptions**
  (`woe_reads_truth_reopen`), for eviction policies that always yield a victim while they hold one (`Drains`;
  proved for FIFO).  Every entry the hybrid model inserts weighs 1, so memory stays well-formed with all weights at
  least 1 along any history (`MW`, `mw_stepCore`); for such a cache the closing flush leaves nothing findable
  (`flush_lookup_none`), which is what `reads_from_restarts` asks of the state the store closes in.
-/
namespace Foyer.Hyb
open Foyer

section
variable {σ : Type} (P : Policy σ) (hc : HCfg) (Ok : σ → Prop) (L : Lawful P Ok) (hn : 0 < hc.mcfg.nshards)

/-- memory is well-formed and every entry weighs at least 1 -/
def MW (s : HState σ) : Prop := CacheInv P Ok hc.mcfg s.mem ∧ WPos s.mem

variable {P} {hc} {Ok}

include L hn in
theorem mw_memOp {s : HState σ} (h : MW P hc Ok s) (op : Op) (hop : 1 ≤ op.insWeight) : MW P hc Ok (memOp P hc s op).1 := by
  unfold MW
  rw [memOp_mem]
  exact ⟨step_inv L hn h.1 op, wpos_step L h.1 h.2 op hop⟩

theorem mw_congr {s s' : HState σ} (h : MW P hc Ok s) (hm : s'.mem = s.mem) : MW P hc Ok s' := by
  unfold MW; rw [hm]; exact h

variable (P) (hc) (Ok)

include L hn in
/-- every API call of the hybrid model keeps memory well-formed and all weights at least 1 -/
theorem mw_stepCore {s : HState σ} (h : MW P hc Ok s) (op : HOp) : MW P hc Ok (stepCore P hc s op).1 := by
  cases hq : op.isControl with
  | true => exact mw_congr h (stepCore_control_mem P hc hq s)
  | false =>
    exact stepCore_closed P hc (I := MW P hc Ok) (Pre := fun _ => True)
      { memOp := fun _ op hu h => mw_memOp L hn h op hu
        submit := fun s r _ h => mw_congr h (submit_mem s r)
        delete := fun s key h => mw_congr h (delete_mem hc s key)
        big := fun _ _ h => mw_congr h rfl
        clear := fun _ h => mw_congr h (flush_mem hc _)
        lose := fun _ _ _ _ _ h => mw_congr h rfl
        reopen := fun _ cap _ => ⟨new_inv L hc.mcfg _, wpos_new P hc.mcfg cap⟩ } trivial h op hq

variable (he : hc.woi = false) (ht : hc.tombLog = true) (hf : hc.foc = true) (D : Drains P Ok) (k : Nat)

include L hn he ht hf D in
/-- **C01 / C15 (write-on-eviction, flush-on-close, tombstone log on; eviction policies that `Drain`)**: reads
observe the latest write across any number of graceful restarts — no further assumption. -/
theorem woe_reads_truth_reopen (memcap : Nat) (ops : List HOp) (hok : ∀ op ∈ ops, okOpR k op) :
    readsOk P hc k none (init P hc memcap) ops := by
  refine reads_from_restarts L hn ht (MW P hc Ok) (fun s op h => mw_congr (mw_stepCore P hc Ok L hn h op) (flush_mem hc _)) ?_ ops none _
    (hb_init L memcap) (rb_init memcap) ⟨new_inv L hc.mcfg memcap, wpos_new P hc.mcfg memcap⟩ hok
  intro tr s hw hb r hr
  rw [closingMem_foc hf, flush_lookup_none L D hw.1 hw.2 k] at hr
  cases hr

end
end Foyer.Hyb

/-! ### Non-vacuity: FIFO memory, write-on-eviction, flush-on-close, restarts -/
namespace Foyer.Hyb.DemoWoeReopen
open Foyer Foyer.Hyb

def hcfg : HCfg := { woi := false, foc := true, tombLog := true, mcfg := { nshards := 1, H := fun k => k % 2 } }

def ops : List HOp :=
  [.ins 0 1 .default false, .reopen, .get 0, .ins 0 2 .default false, .reopen, .get 0, .rm 0, .reopen, .get 0,
   .ins 0 3 .default false, .ins 0 4 .default true, .reopen, .get 0, .fetch 0 5, .reopen, .get 0]

def rets : HState Fifo → List HOp → List HRet
  | _, [] => []
  | s, op :: ops => (step fifoPolicy hcfg s op).2 :: rets (step fifoPolicy hcfg s op).1 ops

example : readsOk fifoPolicy hcfg 0 none (init fifoPolicy hcfg 4) ops :=
  woe_reads_truth_reopen fifoPolicy hcfg _ fifo_lawful (by decide) rfl rfl rfl fifo_drains 0 4 ops (by decide)

end Foyer.Hyb.DemoWoeReopen
