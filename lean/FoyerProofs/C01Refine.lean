import FoyerProofs.Lemmas.BatchLookup
import FoyerProofs.Lemmas.HybridSteps
/-
  C01, the disk tier seen from one key.  `pview`: the index entry a hash will have once the flusher has written
  its queue; what `submit`, `delete`, a disk-capacity eviction and a quiescent `flush` do to it (`pview_submitFits`,
  `pview_delete`, `pview_lost`, `flush_of_qf`).  `DS`: the flusher can run to quiescence and sequence numbers are
  fresh; `Kview`: a predicate on the entry of key `k` the disk tier will show; what the pipe leaves behind for `k`
  (`pipeAll_kview`).  `QF`, `KQ`: what `flush` needs to write everything.
-/
namespace Foyer.Hyb
open Foyer

section
variable {σ : Type} (P : Policy σ) (hc : HCfg)

/-- the index entry of hash `h` once the flusher has written what it has received -/
def pview (s : HState σ) (h : Nat) : Option Idx :=
  let _ := hc
  lookupAfter (assocGet s.index h) s.queue h

/-- every piece in the keeper belongs to a submission the flusher has received and not yet written -/
def KQ (s : HState σ) : Prop :=
  ∀ p ∈ s.keeper, ∃ e f, Sub.entry e f ∈ s.queue ∧ e.key = p.1 ∧ e.ver = p.2.ver

theorem applyBatch_keeper_nil (s : HState σ) (hk : KQ s) : (applyBatch hc s s.queue).keeper = [] := by
  unfold applyBatch
  simp only
  rw [List.filter_eq_nil_iff]
  intro p hp
  obtain ⟨e, f, he, h1, h2⟩ := hk p hp
  cases p with
  | mk pk pr =>
    simp only [Bool.not_eq_true']
    intro hf
    rw [List.any_eq_false] at hf
    -- the piece matches its own queue entry
    refine hf e ?_ (by rw [Bool.and_eq_true, decide_eq_true_eq, decide_eq_true_eq]; exact ⟨h1, h2⟩)
    rw [List.mem_append]
    cases f with
    | true => left; rw [List.mem_filterMap]; exact ⟨.entry e true, he, rfl⟩
    | false => right; rw [List.mem_filterMap]; exact ⟨.entry e false, he, rfl⟩

theorem pview_idle (s : HState σ) (h : Nat) (hq : s.queue = []) : pview hc s h = assocGet s.index h := by
  unfold pview; simp only; rw [hq]; rfl

/-- what `flush` needs to run to quiescence -/
structure QF (s : HState σ) : Prop where
  hh : s.held = false
  hg : s.gated = false
  hi : s.inflight = []
  kq : KQ s

/-- **At a quiescent point the flusher writes everything it received.** -/
theorem flush_of_qf {s : HState σ} (q : QF s) :
    flush hc s = { applyBatch hc s s.queue with inflight := [], queue := [] } := by
  rw [flush_idle hc s q.hh q.hg, q.hi, applyBatch_nil hc]

theorem flush_of_qf_queue {s : HState σ} (q : QF s) : (flush hc s).queue = [] := by
  rw [flush_of_qf hc q]

theorem flush_of_qf_keeper {s : HState σ} (q : QF s) : (flush hc s).keeper = [] := by
  rw [flush_of_qf hc q]
  exact applyBatch_keeper_nil hc s q.kq

theorem qf_flush {s : HState σ} (q : QF s) : QF (flush hc s) := by
  have hk := flush_of_qf_keeper hc q
  rw [flush_of_qf hc q] at hk ⊢
  exact ⟨q.hh, q.hg, rfl, fun p hp => by rw [show _ = [] from hk] at hp; cases hp⟩

theorem flush_of_qf_index {s : HState σ} (q : QF s) (h : Nat) : assocGet (flush hc s).index h = pview hc s h := by
  rw [flush_of_qf hc q]
  exact applyBatch_lookup hc s s.queue h

theorem flush_of_qf_seq {s : HState σ} (q : QF s) : (flush hc s).seq = s.seq := by
  rw [flush_of_qf hc q]
  rfl

theorem flush_of_qf_seqok {s : HState σ} (q : QF s) {h : Nat} (hb : batchLt (assocGet s.index h) s.queue h s.seq) :
    batchLt (assocGet (flush hc s).index h) (flush hc s).queue h (flush hc s).seq := by
  rw [flush_of_qf_queue hc q, flush_of_qf_index hc q, flush_of_qf_seq hc q]
  exact batchLt_nil (lookupAfter_seqLt hb)

theorem flush_of_qf_pview {s : HState σ} (q : QF s) (h : Nat) : pview hc (flush hc s) h = pview hc s h := by
  rw [pview_idle hc _ h (flush_of_qf_queue hc q), flush_of_qf_index hc q]

/-- **What a submission announces for the index**: the record's hash loses its entry if the flusher has to drop
the new one (oversize), and gets the new entry otherwise. -/
theorem pview_submitDropped (s : HState σ) (r : Rec) (h : Nat) (hb : batchLt (assocGet s.index h) s.queue h s.seq) :
    pview hc (submitDropped s r) h = (if h = r.hash then none else pview hc s h) ∧
    batchLt (assocGet (submitDropped s r).index h) (submitDropped s r).queue h (submitDropped s r).seq :=
  lookupAfter_newTomb (ix := s.index) (.entry (entOf s r) false) rfl hb

theorem pview_submitFits (s : HState σ) (r : Rec) (h : Nat) (hb : batchLt (assocGet s.index h) s.queue h s.seq) :
    pview hc (submitFits s r) h = (if h = r.hash then some (.addr (entOf s r)) else pview hc s h) ∧
    batchLt (assocGet (submitFits s r).index h) (submitFits s r).queue h (submitFits s r).seq := by
  refine ⟨?_, batchLt_append (batchLt_mono hb (Nat.le_succ _)) _ (Nat.lt_succ_self _)⟩
  unfold pview submitFits
  simp only
  split
  · rename_i hh
    subst hh
    exact lookupAfter_append_entry (entOf s r) hb
  · rename_i hh
    exact lookupAfter_append_other hh

theorem submit_seqok (s : HState σ) (r : Rec) (h : Nat) (hb : batchLt (assocGet s.index h) s.queue h s.seq) :
    batchLt (assocGet (submit s r).index h) (submit s r).queue h (submit s r).seq := by
  rcases submit_cases s r with ⟨_, hs⟩ | ⟨_, _, hs⟩ | ⟨_, _, hs⟩ <;> rw [hs]
  · exact hb
  · exact (lookupAfter_newTomb (ix := s.index) (.entry (entOf s r) false) rfl hb).2
  · exact batchLt_append (batchLt_mono hb (Nat.le_succ _)) _ (Nat.lt_succ_self _)

theorem kq_mono {s s' : HState σ} (hk : KQ s) (hkeep : ∀ p ∈ s'.keeper, p ∈ s.keeper) (hq : ∀ x ∈ s.queue, x ∈ s'.queue) :
    KQ s' := by
  intro p hp
  obtain ⟨e, f, he, h⟩ := hk p (hkeep p hp)
  exact ⟨e, f, hq _ he, h⟩

theorem submit_kq (s : HState σ) (r : Rec) (hk : KQ s) : KQ (submit s r) := by
  rcases submit_cases s r with ⟨_, h⟩ | ⟨_, _, h⟩ | ⟨_, _, h⟩ <;> rw [h]
  · exact hk
  · exact kq_mono hk (fun _ hp => (List.mem_filter.mp hp).1) (fun _ hx => List.mem_append_left _ hx)
  · intro p hp
    rcases List.mem_cons.mp hp with hp | hp
    · subst hp
      exact ⟨_, true, List.mem_append_right _ (List.mem_singleton.mpr rfl), rfl, rfl⟩
    · obtain ⟨e, f, he, h⟩ := hk p (List.mem_filter.mp hp).1
      exact ⟨e, f, List.mem_append_left _ he, h⟩

theorem pview_delete (s : HState σ) (key h : Nat)
    (hb : batchLt (assocGet s.index h) s.queue h s.seq) :
    pview hc (delete hc s key) h = (if h = hc.mcfg.H key then none else pview hc s h) ∧
    batchLt (assocGet (delete hc s key).index h) (delete hc s key).queue h (delete hc s key).seq :=
  lookupAfter_newTomb (.tomb (hc.mcfg.H key) s.seq) rfl hb

theorem pview_lost (s : HState σ) (hq : s.queue = []) (h' : Nat) (e : DiskEnt) (h : Nat)
    (hb : batchLt (assocGet s.index h) s.queue h s.seq) :
    pview hc (lost s h' e) h = (if h = h' then none else pview hc s h) ∧
    batchLt (assocGet (lost s h' e).index h) (lost s h' e).queue h (lost s h' e).seq := by
  constructor
  · rw [pview_idle hc _ h (show (lost s h' e).queue = [] from hq), pview_idle hc s h hq]
    exact assocGet_del s.index h' h
  · show batchLt (assocGet (assocDel s.index h') h) s.queue h s.seq
    rw [assocGet_del]
    split
    · exact batchLt_cur hb (seqLt_none _)
    · exact hb

theorem delete_kq (s : HState σ) (key : Nat) (hk : KQ s) : KQ (delete hc s key) :=
  kq_mono hk (fun _ hp => (List.mem_filter.mp hp).1) (fun _ hx => List.mem_append_left _ hx)

theorem qf_submit {s : HState σ} (q : QF s) (x : Rec) : QF (submit s x) :=
  ⟨(submit_held s x).trans q.hh, (submit_gated s x).trans q.hg, (submit_inflight s x).trans q.hi, submit_kq s x q.kq⟩

theorem qf_delete {s : HState σ} (q : QF s) (key : Nat) : QF (delete hc s key) :=
  ⟨q.hh, q.hg, q.hi, delete_kq hc s key q.kq⟩

theorem qf_clearQ {s : HState σ} (q : QF s) : QF (clearQ s) :=
  ⟨q.hh, q.hg, q.hi, kq_mono q.kq (fun _ hp => hp) (fun _ hx => List.mem_append_left _ hx)⟩

end

section
variable {σ : Type} (P : Policy σ) (hc : HCfg) (k : Nat)

/-- disk-side well-formedness: flusher idle-able, keeper covered by the queue, sequence numbers fresh -/
structure DS (s : HState σ) : Prop where
  hh : s.held = false
  hg : s.gated = false
  hi : s.inflight = []
  kq : KQ s
  seqok : batchLt (assocGet s.index (hc.mcfg.H k)) s.queue (hc.mcfg.H k) s.seq

/-- every entry of key `k` the disk tier will show satisfies `Q` -/
def Kview (s : HState σ) (Q : DiskEnt → Prop) : Prop :=
  ∀ e, pview hc s (hc.mcfg.H k) = some (.addr e) → e.key = k → Q e

variable {hc} {k}

theorem DS.of_qf {s : HState σ} (q : QF s) (hb : batchLt (assocGet s.index (hc.mcfg.H k)) s.queue (hc.mcfg.H k) s.seq) :
    DS hc k s := ⟨q.hh, q.hg, q.hi, q.kq, hb⟩

theorem DS.qf {s : HState σ} (h : DS hc k s) : QF s := ⟨h.hh, h.hg, h.hi, h.kq⟩

theorem ds_setMem {s : HState σ} (h : DS hc k s) (m : Cache σ) : DS hc k { s with mem := m } :=
  ⟨h.hh, h.hg, h.hi, h.kq, h.seqok⟩

theorem ds_submit {s : HState σ} (h : DS hc k s) (r : Rec) : DS hc k (submit s r) :=
  .of_qf (qf_submit h.qf r) (submit_seqok s r (hc.mcfg.H k) h.seqok)

theorem ds_flush {s : HState σ} (h : DS hc k s) : DS hc k (flush hc s) :=
  .of_qf (qf_flush hc h.qf) (flush_of_qf_seqok hc h.qf h.seqok)

theorem ds_submitIf {s : HState σ} (h : DS hc k s) (c : Bool) (r : Rec) : DS hc k (submitIf c s r) := by
  unfold submitIf
  split
  · exact ds_submit h r
  · exact h

theorem kview_of_erase {s s' : HState σ} {h' : Nat} {Q : DiskEnt → Prop}
    (hpv : pview hc s' (hc.mcfg.H k) = if hc.mcfg.H k = h' then none else pview hc s (hc.mcfg.H k))
    (hv : Kview hc k s Q) : Kview hc k s' Q := by
  intro e he hke
  rw [hpv] at he
  split at he
  · cases he
  · exact hv e he hke

theorem kview_submitFits {s : HState σ} (h : DS hc k s) (r : Rec) {Q : DiskEnt → Prop}
    (hq : r.hash = hc.mcfg.H k → r.key = k → Q (entOf s r)) (hv : r.hash ≠ hc.mcfg.H k → Kview hc k s Q) :
    Kview hc k (submitFits s r) Q := by
  intro e he hke
  rw [(pview_submitFits hc s r _ h.seqok).1] at he
  split at he
  · rename_i hh
    cases he
    exact hq hh.symm hke
  · rename_i hh
    exact hv (fun e' => hh e'.symm) e he hke

theorem kview_submit_other {s : HState σ} (h : DS hc k s) (r : Rec) (hk : r.key ≠ k) {Q : DiskEnt → Prop}
    (hv : Kview hc k s Q) : Kview hc k (submit s r) Q := by
  rcases submit_cases s r with ⟨_, hs⟩ | ⟨_, _, hs⟩ | ⟨_, _, hs⟩ <;> rw [hs]
  · exact hv
  · exact kview_of_erase (pview_submitDropped hc s r _ h.seqok).1 hv
  · exact kview_submitFits h r (fun _ hk' => absurd hk' hk) (fun _ => hv)

theorem kview_submit_self {s : HState σ} (h : DS hc k s) (r : Rec) (hh : r.hash = hc.mcfg.H k)
    (hy : r.age ≠ .young) : Kview hc k (submit s r) (fun e => e.ver = r.ver) := by
  rcases submit_cases s r with ⟨hy', _⟩ | ⟨_, _, hs⟩ | ⟨_, _, hs⟩
  · exact absurd hy' hy
  · rw [hs]
    intro e he _
    rw [(pview_submitDropped hc s r _ h.seqok).1, if_pos hh.symm] at he
    cases he
  · rw [hs]
    exact kview_submitFits h r (fun _ _ => rfl) (fun hne => absurd hh hne)

theorem kview_mono {s : HState σ} {Q Q' : DiskEnt → Prop} (hq : ∀ e, Q e → Q' e) (hv : Kview hc k s Q) :
    Kview hc k s Q' := fun e he hke => hq e (hv e he hke)

theorem ds_pipe (l : List Rec) (s : HState σ) (h : DS hc k s) : DS hc k (l.foldl (pipeSend hc) s) :=
  pipe_closed hc (I := DS hc k) (fun _ r _ h => ds_submit h r) l s h

theorem ds_pipeSend {s : HState σ} (h : DS hc k s) (r : Rec) : DS hc k (pipeSend hc s r) :=
  ds_pipe [r] s h

theorem kview_pipe_other {Q : DiskEnt → Prop} : ∀ {l : List Rec} {s : HState σ}, (∀ x ∈ l, x.key ≠ k) → DS hc k s →
    Kview hc k s Q → Kview hc k (l.foldl (pipeSend hc) s) Q := by
  intro l
  induction l with
  | nil => intro s _ _ hv; exact hv
  | cons x xs ih =>
    intro s hl hds hv
    apply ih (fun y hy => hl y (List.mem_cons_of_mem _ hy)) (ds_pipeSend hds x)
    unfold pipeSend
    split
    · exact hv
    · split
      · exact hv
      · exact kview_submit_other hds x (hl x List.mem_cons_self) hv

/-- Under write-on-eviction: what the pipe leaves behind for key `k`, when the records of key `k` it is handed are
all the record `r0`.  Once `r0` is sent on, its version is what the disk tier shows. -/
theorem kview_pipe_woe (he : hc.woi = false) {r0 : Rec} (hr0 : r0.hash = hc.mcfg.H k) :
    ∀ {l : List Rec} {s : HState σ} {Q : DiskEnt → Prop}, (∀ x ∈ l, x.key = k → x = r0) → DS hc k s → Kview hc k s Q →
    Kview hc k (l.foldl (pipeSend hc) s) (fun e => Q e ∨ e.ver = r0.ver) ∧
    (r0 ∈ l → r0.key = k → r0.age ≠ .young → r0.loc ≠ .inMem →
      Kview hc k (l.foldl (pipeSend hc) s) (fun e => e.ver = r0.ver)) := by
  intro l
  induction l with
  | nil =>
    intro s Q _ _ hv
    exact ⟨kview_mono (fun e h => Or.inl h) hv, fun h => (by cases h)⟩
  | cons x xs ih =>
    intro s Q hl hds hv
    simp only [List.foldl_cons]
    have hds1 := ds_pipeSend hds x
    have hl' : ∀ y ∈ xs, y.key = k → y = r0 := fun y hy => hl y (List.mem_cons_of_mem _ hy)
    by_cases hxk : x.key = k
    · have hx0 : x = r0 := hl x List.mem_cons_self hxk
      subst hx0
      by_cases hsent : x.loc ≠ .inMem ∧ x.age ≠ .young
      · -- sent: from here on the view of `k` is this version
        have hv1 : Kview hc k (pipeSend hc s x) (fun e => e.ver = x.ver) := by
          rw [pipeSend_woe hc he, if_neg hsent.1]
          exact kview_submit_self hds x hr0 hsent.2
        have a2 : Kview hc k (xs.foldl (pipeSend hc) (pipeSend hc s x)) (fun e => e.ver = x.ver) :=
          kview_mono (fun e h => h.elim id id) (ih hl' hds1 hv1).1
        exact ⟨kview_mono (fun e h => Or.inr h) a2, fun _ _ _ _ => a2⟩
      · -- not sent (in-memory-only advice or already on disk): nothing changes
        have hsame : pipeSend hc s x = s := by
          rw [pipeSend_woe hc he]
          by_cases hloc : x.loc = .inMem
          · rw [if_pos hloc]
          · rw [if_neg hloc]
            have hy : x.age = .young := by
              by_cases hy : x.age = .young
              · exact hy
              · exact absurd ⟨hloc, hy⟩ hsent
            exact submit_young s x hy
        rw [hsame]
        obtain ⟨a2, a3⟩ := ih hl' hds hv
        refine ⟨a2, fun hm hk0 hy hloc => ?_⟩
        rcases List.mem_cons.mp hm with _ | hm'
        · exact absurd ⟨hloc, hy⟩ hsent
        · exact a3 hm' hk0 hy hloc
    · have hv1 : Kview hc k (pipeSend hc s x) Q := by
        rw [pipeSend_woe hc he]
        split
        · exact hv
        · exact kview_submit_other hds x hxk hv
      obtain ⟨a2, a3⟩ := ih hl' hds1 hv1
      refine ⟨a2, fun hm hk0 hy hloc => ?_⟩
      rcases List.mem_cons.mp hm with h0 | hm'
      · rw [h0] at hk0; exact absurd hk0 hxk
      · exact a3 hm' hk0 hy hloc

end

section
variable {σ : Type} (P : Policy σ) (hc : HCfg) (k : Nat)
variable (he : hc.woi = false)

include he in
/-- **What the pipe leaves behind for key `k`.**  `l` is what a memory operation hands to the pipe; its
records of key `k` are all the record `r0`. -/
theorem pipeAll_kview (r0 : Rec) (hr0 : r0.hash = hc.mcfg.H k) : ∀ (l : List Rec) (s : HState σ) (Q : DiskEnt → Prop),
    (∀ x ∈ l, x.key = k → x = r0) → DS hc k s → Kview hc k s Q →
    DS hc k (l.foldl (pipeSend hc) s) ∧
    Kview hc k (l.foldl (pipeSend hc) s) (fun e => Q e ∨ e.ver = r0.ver) ∧
    (r0 ∈ l → r0.key = k → r0.age ≠ .young → r0.loc ≠ .inMem →
      Kview hc k (l.foldl (pipeSend hc) s) (fun e => e.ver = r0.ver)) ∧
    ((∀ x ∈ l, x.key ≠ k) → Kview hc k (l.foldl (pipeSend hc) s) Q) := by
  intro l s Q hl hds hv
  obtain ⟨a2, a3⟩ := kview_pipe_woe he hr0 hl hds hv
  exact ⟨ds_pipe l s hds, a2, a3, fun hno => kview_pipe_other hno hds hv⟩

end

section
variable {σ : Type} {P : Policy σ} {hc : HCfg} {Ok : σ → Prop} (L : Lawful P Ok) (hn : 0 < hc.mcfg.nshards) {k : Nat}

theorem kview_pipe {r0 : Rec} (hr0 : r0.hash = hc.mcfg.H k) {l : List Rec} {s : HState σ} {Q : DiskEnt → Prop}
    (hl : ∀ x ∈ l, x.key = k → x = r0) (hds : DS hc k s) (hv : Kview hc k s Q) :
    Kview hc k (l.foldl (pipeSend hc) s) (fun e => Q e ∨ e.ver = r0.ver) := by
  cases hw : hc.woi with
  | true => rw [foldl_pipeSend_woi hc hw]; exact kview_mono (fun _ => Or.inl) hv
  | false => exact (kview_pipe_woe hw hr0 hl hds hv).1

theorem kview_pipe_sent (he : hc.woi = false) {r0 : Rec} (hr0 : r0.hash = hc.mcfg.H k) {l : List Rec} {s : HState σ}
    (hl : ∀ x ∈ l, x.key = k → x = r0) (hds : DS hc k s) (hm : r0 ∈ l) (hk : r0.key = k) (hy : r0.age ≠ .young)
    (hloc : r0.loc ≠ .inMem) : Kview hc k (l.foldl (pipeSend hc) s) (fun e => e.ver = r0.ver) :=
  (kview_pipe_woe he hr0 hl hds (Q := fun _ => True) (fun _ _ _ => trivial)).2 hm hk hy hloc

include L hn in
theorem cinv_ds_memOp {s : HState σ} (hci : CacheInv P Ok hc.mcfg s.mem) (hds : DS hc k s) (op : Op) :
    CacheInv P Ok hc.mcfg (memOp P hc s op).1.mem ∧ DS hc k (memOp P hc s op).1 :=
  ⟨by rw [memOp_mem]; exact step_inv L hn hci op, by rw [memOp_eq]; exact ds_pipe _ _ (ds_setMem hds _)⟩

end

section
variable {σ : Type} (P : Policy σ) (hc : HCfg) (Ok : σ → Prop) (L : Lawful P Ok) (hn : 0 < hc.mcfg.nshards)
  (he : hc.woi = false) (k : Nat)

/-- The coherence invariant in its write-on-eviction form (`HInv` of `C01Woi.lean` with `Clean r` read as
`r.age = .young`, without the clause for a key absent from memory). -/
structure EInv (tr : Option Nat) (s : HState σ) : Prop where
  cinv : CacheInv P Ok hc.mcfg s.mem
  ds : DS hc k s
  M : ∀ r, Cache.lookup hc.mcfg s.mem k = some r → tr = some r.ver
  N : ∀ r, Cache.lookup hc.mcfg s.mem k = some r → r.loc ≠ .inMem
  Y : ∀ r, Cache.lookup hc.mcfg s.mem k = some r → r.age = .young → Kview hc k s (fun e => e.ver = r.ver)

include L hn he in
/-- **A disk-only insert of `k`** (storage writer, on-disk advice), first half: memory lets go of `k`, nothing is
piped yet (the record reaches the pipe when its handle is dropped). -/
theorem einv_ins_phantom_k {tr : Option Nat} {s : HState σ} (h : EInv P hc Ok k tr s) (ver w : Nat) (hint : Hint)
    (loc : Loc) (tr' : Option Nat) :
    EInv P hc Ok k tr' (memOp P hc s (.ins k ver w hint true loc .fresh)).1 ∧
    Cache.lookup hc.mcfg (memOp P hc s (.ins k ver w hint true loc .fresh)).1.mem k = none := by
  have hl' : Cache.lookup hc.mcfg (memOp P hc s (.ins k ver w hint true loc .fresh)).1.mem k = none := by
    rw [memOp_mem]
    exact lookup_ins_phantom L hn h.cinv k ver w hint loc .fresh
  obtain ⟨hci, hds⟩ := cinv_ds_memOp L hn h.cinv h.ds (.ins k ver w hint true loc .fresh)
  refine ⟨⟨hci, hds, ?_, ?_, ?_⟩, hl'⟩
  · intro r hr; rw [hl'] at hr; cases hr
  · intro r hr; rw [hl'] at hr; cases hr
  · intro r hr; rw [hl'] at hr; cases hr

end
end Foyer.Hyb
