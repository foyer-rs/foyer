import FoyerProofs.Lemmas.HybridSteps
/-
  C12 — disk writes happen exactly when policy and placement advice say so (hybrid model).

  `subs` is the log of everything ever handed to the disk tier (`Store::enqueue` / `delete`); the
  device write log of the implementation is compared with it by the correspondence (trace fields `w`, `disk`).
-/
namespace Foyer.Hyb
open Foyer

section
variable {σ : Type} (P : Policy σ) (hc : HCfg)

/-- No submission carries in-memory-only advice. -/
def NoInMem (s : HState σ) : Prop := SubsAll (fun e _ => e.loc ≠ .inMem) s

theorem submit_noInMem (s : HState σ) (r : Rec) (hl : r.loc ≠ .inMem) (hs : NoInMem s) : NoInMem (submit s r) :=
  submit_subsAll s r hs (fun _ _ => hl)

theorem memOp_noInMem (s : HState σ) (op : Op) (hs : NoInMem s) : NoInMem (memOp P hc s op).1 :=
  memOp_closed P hc (I := NoInMem) submit_noInMem op (subsAll_of_eq rfl hs)

theorem flush_noInMem (s : HState σ) (hs : NoInMem s) : NoInMem (flush hc s) :=
  subsAll_of_eq (flush_subs hc s) hs

theorem stepCore_noInMem (s : HState σ) (op : HOp) (hs : NoInMem s) : NoInMem (stepCore P hc s op).1 := by
  cases hq : op.isControl with
  | true => exact subsAll_of_eq (stepCore_control_subs P hc hq s) hs
  | false =>
    exact stepCore_closed P hc (I := NoInMem) (Pre := fun _ => True)
      { memOp := fun s op _ h => memOp_noInMem P hc s op h
        submit := submit_noInMem
        delete := fun s key h => subsAll_snoc trivial h (delete_subs hc s key)
        big := fun s _ h => subsAll_of_eq rfl h
        clear := fun s h => subsAll_of_eq (s := flush hc (clearQ s)) rfl
          (flush_noInMem hc _ (subsAll_snoc (s := s) trivial h rfl))
        lose := fun s h' e _ _ h => subsAll_of_eq rfl h
        reopen := fun s cap h => subsAll_of_eq (s := flush hc { s with held := false, gated := false }) rfl
          (flush_noInMem hc _ (subsAll_of_eq (s := s) rfl h)) } trivial hs op hq

theorem step_noInMem (s : HState σ) (op : HOp) (hs : NoInMem s) : NoInMem (step P hc s op).1 := by
  unfold step
  exact flush_noInMem hc _ (stepCore_noInMem P hc s op hs)

/-- **C12 (in-memory-only advice)**: in every history — any operations, hold / gate windows, closes
and reopens — nothing advised in-memory-only is ever handed to the disk tier. -/
theorem inmem_never_submitted (memcap : Nat) (ops : List HOp) :
    NoInMem (run P hc (init P hc memcap) ops) := by
  have hgen : ∀ (ops : List HOp) (s : HState σ), NoInMem s → NoInMem (run P hc s ops) := by
    intro ops
    induction ops with
    | nil => intro s hs; exact hs
    | cons op ops ih => intro s hs; exact ih _ (step_noInMem P hc s op hs)
  apply hgen
  intro x hx
  simp [init] at hx

/-- **C12 (an entry just loaded from disk is not rewritten)**: the engine skips `young` entries. -/
theorem young_not_rewritten (s : HState σ) (r : Rec) (hy : r.age = .young) : submit s r = s :=
  submit_young s r hy

/-- Under write-on-insertion nothing reaches the disk tier through the pipe, whatever memory evicts. -/
theorem woi_memOp_subs (hw : hc.woi = true) (s : HState σ) (op : Op) : (memOp P hc s op).1.subs = s.subs := by
  rw [memOp_eq, foldl_pipeSend_woi hc hw]

/-- Under write-on-eviction a memory operation that evicts nothing submits nothing. -/
theorem woe_no_eviction_no_write (s : HState σ) (op : Op)
    (hne : evictedOf (Cache.step P hc.mcfg s.mem op).2.leaves = []) : (memOp P hc s op).1.subs = s.subs := by
  rw [memOp_eq, C13.pipe_iff_evict, hne]
  rfl

theorem loadAndPopulate_src (s : HState σ) (k : Nat) (v : Nat) (src : String)
    (h : (loadAndPopulate P hc s k).2 = some (v, src)) : src = "memory" ∨ src = "disk" := by
  rw [loadAndPopulate_eq] at h
  split at h
  · simp only [Option.some.injEq, Prod.mk.injEq] at h; left; exact h.2.symm
  · split at h
    · cases h
    · split at h
      · simp only [Option.some.injEq, Prod.mk.injEq] at h; right; exact h.2.symm
      · cases h

/-- **C12 (origin only after both tiers missed)**: `get_or_fetch` answers from the origin only if
memory missed and the disk tier (keeper, then index with key check) missed. -/
theorem origin_only_after_misses (s : HState σ) (key ov : Nat)
    (h : (step P hc s (.fetch key ov)).2 = .val key ov "outer") :
    Cache.lookup hc.mcfg s.mem key = none ∧
    (loadAndPopulate P hc (memOp P hc s (.get key)).1 key).2 = none := by
  have h' : (stepCore P hc s (.fetch key ov)).2 = .val key ov "outer" := h
  rw [stepCore_fetch] at h'
  cases hl : Cache.lookup hc.mcfg s.mem key with
  | some r =>
    -- a memory hit answers with source "memory"
    rw [getSeq_hit P hc hl] at h'
    simp only [HRet.val.injEq] at h'
    exact absurd h'.2.2 (by decide)
  | none =>
    refine ⟨rfl, ?_⟩
    rw [memOp_get_miss P hc hl]
    rw [getSeq_miss P hc hl] at h'
    cases hld : (loadAndPopulate P hc s key).2 with
    | none => rfl
    | some vs =>
      -- a disk-tier hit answers with source "memory" (keeper) or "disk"
      obtain ⟨v, src⟩ := vs
      rw [hld] at h'
      simp only [HRet.val.injEq] at h'
      rcases loadAndPopulate_src P hc s key v src hld with hs | hs <;> rw [hs] at h'
      · exact absurd h'.2.2 (by decide)
      · exact absurd h'.2.2 (by decide)
end

end Foyer.Hyb
