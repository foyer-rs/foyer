import FoyerProofs.Lemmas.HybridSteps
import FoyerProofs.Lemmas.BatchLookup
/-
  C15 — a graceful close persists what memory held (hybrid model).

  `reopen` = close (optionally flush memory through the pipe, drain the flusher) followed by
  recovery from the device.
-/
namespace Foyer.Hyb
open Foyer

section
variable {σ : Type} (P : Policy σ) (hc : HCfg)

/-- waiting in the flusher (received, or in a batch whose writes are in flight) or already on the device -/
def Pending (e : DiskEnt) (s : HState σ) : Prop :=
  Sub.entry e true ∈ s.queue ∨ Sub.entry e true ∈ s.inflight ∨ e ∈ s.disk

/-- what is on the device after the batch in flight and then the queue are written -/
theorem mem_disk_both (s : HState σ) (e : DiskEnt) :
    e ∈ (applyBatch hc (applyBatch hc s s.inflight) s.queue).disk ↔
      (e ∈ s.disk ∨ Sub.entry e true ∈ s.inflight) ∨ Sub.entry e true ∈ s.queue := by
  rw [mem_applyBatch_disk, mem_applyBatch_disk]

theorem pending_flush (s : HState σ) (e : DiskEnt) (h : Pending e s) : Pending e (flush hc s) := by
  rcases flush_cases hc s with hf | ⟨hi, hf⟩ | ⟨hi, hf⟩ | hf <;> rw [hf]
  · exact h
  · rcases h with h | h | h
    · exact Or.inr (Or.inl h)
    · rw [hi] at h; cases h
    · exact Or.inr (Or.inr h)
  · rcases h with h | h | h
    · exact Or.inr (Or.inr ((mem_applyBatch_disk hc s s.queue).mpr (Or.inr h)))
    · rw [hi] at h; cases h
    · exact Or.inr (Or.inr ((mem_applyBatch_disk hc s s.queue).mpr (Or.inl h)))
  · refine Or.inr (Or.inr ((mem_disk_both hc s e).mpr ?_))
    rcases h with h | h | h
    · exact Or.inr h
    · exact Or.inl (Or.inr h)
    · exact Or.inl (Or.inl h)

theorem flush_drains (s : HState σ) (hh : s.held = false) (hg : s.gated = false) (e : DiskEnt)
    (h : Pending e s) : e ∈ (flush hc s).disk := by
  have hp := pending_flush hc s e h
  rw [flush_idle hc s hh hg] at hp ⊢
  rcases hp with hp | hp | hp
  · cases hp
  · cases hp
  · exact hp

theorem flush_disk_mono (s : HState σ) (e : DiskEnt) (h : e ∈ s.disk) : e ∈ (flush hc s).disk := by
  rcases flush_cases hc s with hf | ⟨_, hf⟩ | ⟨_, hf⟩ | hf <;> rw [hf]
  · exact h
  · exact h
  · exact (mem_applyBatch_disk hc s s.queue).mpr (Or.inl h)
  · exact (mem_disk_both hc s e).mpr (Or.inl (Or.inl h))

theorem pending_submit (s : HState σ) (r : Rec) (e : DiskEnt) (h : Pending e s) : Pending e (submit s r) := by
  rcases submit_cases s r with ⟨_, hs⟩ | ⟨_, _, hs⟩ | ⟨_, _, hs⟩ <;> rw [hs]
  · exact h
  · exact h.imp (List.mem_append_left _) id
  · exact h.imp (List.mem_append_left _) id

theorem submit_makes_pending (s : HState σ) (r : Rec) (hy : r.age ≠ .young) (hb : s.big.contains r.ver = false) :
    ∃ e, Pending e (submit s r) ∧ e.key = r.key ∧ e.ver = r.ver ∧ e.hash = r.hash := by
  rw [submit_fits s r hy (by rw [hb]; decide)]
  exact ⟨entOf s r, Or.inl (List.mem_append_right _ (List.mem_singleton.mpr rfl)), rfl, rfl, rfl⟩

theorem pending_pipe (e : DiskEnt) (l : List Rec) (s : HState σ) (h : Pending e s) :
    Pending e (l.foldl (pipeSend hc) s) :=
  pipe_closed hc (I := Pending e) (fun s r _ h => pending_submit s r e h) l s h

theorem pipe_makes_pending (hw : hc.woi = false) : ∀ (l : List Rec) (s : HState σ) (r : Rec),
    r ∈ l → r.loc ≠ .inMem → r.age ≠ .young → s.big.contains r.ver = false →
    ∃ e, Pending e (l.foldl (pipeSend hc) s) ∧ e.key = r.key ∧ e.ver = r.ver ∧ e.hash = r.hash := by
  intro l
  induction l with
  | nil => intro s r hr; cases hr
  | cons a l ih =>
    intro s r hr hl hy hb
    simp only [List.foldl_cons]
    rcases List.mem_cons.mp hr with h1 | h1
    · subst h1
      have hps : pipeSend hc s r = submit s r := by rw [pipeSend_woe hc hw, if_neg hl]
      obtain ⟨e, hp, h2⟩ := submit_makes_pending s r hy hb
      rw [← hps] at hp
      exact ⟨e, pending_pipe hc e l _ hp, h2⟩
    · exact ih _ r h1 hl hy (by rw [pipeSend_big]; exact hb)

theorem reopen_drains (s : HState σ) (e : DiskEnt) (h : Pending e (if hc.foc then (memOp P hc s .flush).1 else s)) :
    e ∈ (step P hc s .reopen).1.disk := by
  unfold step
  apply flush_disk_mono
  rw [stepCore_reopen]
  exact flush_drains hc { (if hc.foc then (memOp P hc s .flush).1 else s) with held := false, gated := false } rfl rfl e h

/-- **C15 (flush-on-close, write-on-eviction)**: everything the closing flush takes out of memory —
except entries advised in-memory-only, entries just loaded from disk (their copy is already there)
and entries larger than the per-entry limit — is on the device when `close` returns, whatever the
flusher was doing before (held, gated, queue non-empty). -/
theorem close_persists_flushed (hf : hc.foc = true) (hw : hc.woi = false) (s : HState σ) (r : Rec)
    (hr : r ∈ (Cache.step P hc.mcfg s.mem .flush).2.piped)
    (hl : r.loc ≠ .inMem) (hy : r.age ≠ .young) (hb : s.big.contains r.ver = false) :
    ∃ e ∈ (step P hc s .reopen).1.disk, e.key = r.key ∧ e.ver = r.ver ∧ e.hash = r.hash := by
  obtain ⟨e, hpe, h2⟩ := pipe_makes_pending hc hw _ ({ s with mem := (Cache.step P hc.mcfg s.mem .flush).1 }) r hr hl hy hb
  rw [← memOp_eq] at hpe
  exact ⟨e, reopen_drains P hc s e (by rw [if_pos hf]; exact hpe), h2⟩

/-- **C15 (what was queued is drained by close)**, both policies. -/
theorem close_drains_queue (s : HState σ) (e : DiskEnt) (h : Pending e s) :
    e ∈ (step P hc s .reopen).1.disk := by
  apply reopen_drains
  split
  · rw [memOp_eq]
    exact pending_pipe hc e _ _ h
  · exact h

/-- **C15 (flush-on-close disabled)**: closing hands nothing to the disk tier. -/
theorem close_without_flush_submits_nothing (hf : hc.foc = false) (s : HState σ) :
    (step P hc s .reopen).1.subs = s.subs := by
  show (flush hc (stepCore P hc s .reopen).1).subs = s.subs
  rw [flush_subs, stepCore_reopen, hf, if_neg Bool.false_ne_true]
  exact flush_subs hc _

/-- **C15 (after reopening)**: the index is exactly what recovery reconstructs from the device (and
the tombstone log, if enabled): per hash the newest copy, unless a logged tombstone is newer. -/
theorem reopen_index_is_recovery (s : HState σ) :
    (stepCore P hc s .reopen).1.index =
      recover (stepCore P hc s .reopen).1.disk (if hc.tombLog then (stepCore P hc s .reopen).1.tombs else []) := by
  rw [stepCore_reopen]
  rfl

end

/-! ### non-vacuity: a resident entry of a write-on-eviction cache survives close + reopen -/
section Demo
def dcfg : HCfg := { woi := false, foc := true, tombLog := true, mcfg := { nshards := 1, H := fun k => k } }
def dstate : HState Fifo := (step fifoPolicy dcfg (init fifoPolicy dcfg 2) (.ins 3 1 .default false)).1
example : (Cache.step fifoPolicy dcfg.mcfg dstate.mem .flush).2.piped.map (fun r => (r.key, r.ver)) = [(3, 1)] := by decide
example : ((step fifoPolicy dcfg dstate .reopen).1.disk.map fun e => (e.key, e.ver)) = [(3, 1)] := by decide
example : (step fifoPolicy dcfg (step fifoPolicy dcfg dstate .reopen).1 (.get 3)).2 = .val 3 1 "disk" := by decide
end Demo

end Foyer.Hyb
