import FoyerProofs.Lemmas.Layout
/-
  C04 — recovery after a crash at any point is consistent.  The crash-point enumeration (`Driver.Crash`)
  compares the recovery model built from `Foyer.Blk.recoverBlock` and `Foyer.Hyb.recover` with the reopened
  real store; the theorems are about those two functions, for every device content: the scanner and the
  per-block recovery never invent an entry (here); per hash the newest copy wins and a tombstone at least as
  new suppresses it (`Foyer.Hyb.recovery_picks_latest`, `recovery_honours_tombstones`, C01); a block written
  in sequence order is read back exactly (`recover_reads_back`, C07).
-/
namespace Foyer.Blk

/-- **The scanner never invents an entry**: everything it returns sits in a blob index page of the
device, at the position that page says. -/
theorem scan_subset (c : LCfg) (m : IdxMap) : ∀ (fuel off : Nat), ∀ ps ∈ scan c m fuel off, ∀ p ∈ ps,
    ∃ o es e, (o, es) ∈ m ∧ e ∈ es ∧ p = place o e := by
  intro fuel
  induction fuel with
  | zero => intro off ps h; simp [scan] at h
  | succ fuel ih =>
    intro off ps h p hp
    simp only [scan] at h
    split at h
    · cases h
    · split at h
      · cases h
      · rename_i es hes
        rcases List.mem_cons.mp h with h1 | h1
        · subst h1
          simp only [List.mem_map] at hp
          obtain ⟨e, he, hpe⟩ := hp
          exact ⟨off, es, e, idxAt_mem hes, he, hpe.symm⟩
        · exact ih _ ps h1 p hp

theorem guardSeq_subset : ∀ (l : List Placed) (last : Nat), ∀ p ∈ guardSeq l last, p ∈ l := by
  intro l
  induction l with
  | nil => intro _ p h; simp [guardSeq] at h
  | cons x xs ih =>
    intro last p h
    simp only [guardSeq] at h
    split at h
    · cases h
    · rcases List.mem_cons.mp h with h1 | h1
      · subst h1; exact List.mem_cons_self
      · exact List.mem_cons_of_mem _ (ih _ p h1)

/-- **Per-block recovery never invents an entry** (for any device content: torn, stale, reused). -/
theorem recoverBlock_subset (c : LCfg) (m : IdxMap) : ∀ p ∈ recoverBlock c m,
    ∃ o es e, (o, es) ∈ m ∧ e ∈ es ∧ p = place o e := by
  intro p hp
  unfold recoverBlock at hp
  have h1 := guardSeq_subset _ _ p hp
  simp only [List.mem_flatten] at h1
  obtain ⟨ps, hps, hpp⟩ := h1
  exact scan_subset c m _ _ ps hps p hpp

/-! non-vacuity: a block with a stale blob behind the live one; the sequence guard cuts the stale entries off -/
section Demo
def m1 : IdxMap := [(0, [⟨1001, 7, 4096, 100⟩, ⟨1002, 8, 8192, 100⟩]), (12288, [⟨1000, 3, 4096, 50⟩])]
example : recoverBlock { B := 32768, I := 4096 } m1 = [⟨1001, 7, 4096, 100⟩, ⟨1002, 8, 8192, 100⟩] := by decide
end Demo

end Foyer.Blk
