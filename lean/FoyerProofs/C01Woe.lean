import FoyerProofs.C01Woi
/-
  C01, part 3 — the hybrid cache under write-on-eviction (the default policy) refines the same per-key register
  as under write-on-insertion: the instance of `reads_truth` (`C01Woi.lean`).
-/
namespace Foyer.Hyb
open Foyer

section
variable {σ : Type} (P : Policy σ) (hc : HCfg) (Ok : σ → Prop) (L : Lawful P Ok) (hn : 0 < hc.mcfg.nshards)
  (he : hc.woi = false) (k : Nat)

include L hn he in
/-- **C01 (write-on-eviction, the default policy): reads observe the latest write, whatever the history.** -/
theorem woe_reads_truth (memcap : Nat) (ops : List HOp) (hok : ∀ op ∈ ops, okOp k op) :
    readsOk P hc k none (init P hc memcap) ops :=
  reads_truth P hc Ok L hn k memcap ops hok

end
end Foyer.Hyb

namespace Foyer.Hyb.DemoWoe
open Foyer Foyer.Hyb

def hcfg : HCfg := { woi := false, foc := false, tombLog := true, mcfg := { nshards := 1, H := fun k => k % 2 } }

/-- memory of 2 entries: inserts of the colliding key 2 and of key 4 push key 0 out to disk; an update of key 0
while an older copy is on disk; a storage-writer insert; an oversize update; disk-capacity eviction; remove -/
def ops : List HOp :=
  [.ins 0 1 .default false, .ins 2 2 .default false, .ins 4 3 .default false, .get 0, .ins 0 4 .default false,
   .ins 2 5 .default false, .ins 4 6 .default false, .get 0, .wins 0 7 true, .get 0, .evict, .get 0,
   .ins 0 8 .default true, .evict, .get 0, .fetch 0 9, .lose 0, .get 0, .rm 0, .fetch 0 10, .clear, .get 0]

def rets : HState Fifo → List HOp → List HRet
  | _, [] => []
  | s, op :: ops => (step fifoPolicy hcfg s op).2 :: rets (step fifoPolicy hcfg s op).1 ops

example : readsOk fifoPolicy hcfg 0 none (init fifoPolicy hcfg 2) ops :=
  woe_reads_truth fifoPolicy hcfg _ fifo_lawful (by decide) rfl 0 2 ops (by decide)

end Foyer.Hyb.DemoWoe
