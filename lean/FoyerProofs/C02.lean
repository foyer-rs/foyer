import FoyerProofs.Lemmas.CacheInv
import FoyerProofs.Lemmas.LawfulFifo
import FoyerProofs.Lemmas.Linearizable
/-
  C02 — In-memory cache is linearizable per key under concurrent use.

  Part A (`reads_latest`): the sequential model refines, per key, an atomic register whose reads
  may additionally miss — for every lawful policy, hasher, shard count and operation sequence.
  Part B (`atomic_sections_linearizable`): in the interleaving semantics where every call is
  `invoke ; one atomic step ; respond` (what the shard lock provides — DESIGN.md §4, "one API call = one atomic step"), the order
  of the atomic steps is a linearization that respects real time.
  Part C (`held_stable`): a held handle keeps denoting the same, unchanged record.
-/
namespace Foyer.C02

section
variable {σ : Type} {P : Policy σ} {Ok : σ → Prop}

theorem findKey_eraseKey_self (k : Nat) (l : List Rec) : findKey k (eraseKey k l) = none := by
  rw [findKey_none]
  intro r hr
  exact (mem_eraseKey.mp hr).2

inductive Writes (k : Nat) : Op → Prop
  | ins (v w : Nat) (h : Hint) (p : Bool) (l : Loc) (a : Age) : Writes k (.ins k v w h p l a)
  | remove : Writes k (.remove k)
  | clear : Writes k .clear

theorem regStep_of_not_writes {k : Nat} {op : Op} (h : ¬ Writes k op) (cur : Option Rec) (out : Out) :
    regStep k cur op out = cur := by
  cases op <;> simp only [regStep]
  · rename_i key _ _ _ _ _ _; exact if_neg fun (e : key = k) => h (e ▸ .ins ..)
  · rename_i key; exact if_neg fun (e : key = k) => h (e ▸ .remove)
  · exact absurd .clear h

theorem lookup_written (P : Policy σ) {cfg : Cfg} {c : Cache σ} {k : Nat}
    (hlt : cfg.shardOf (cfg.H k) < c.shards.length) {op : Op} (hw : Writes k op) (cur : Option Rec) :
    Cache.lookup cfg (Cache.step P cfg c op).1 k = regStep k cur op (Cache.step P cfg c op).2 ∨
    (Cache.step P cfg c op).2.ret = .panic := by
  cases hw with
  | ins v w h p l a =>
    obtain ⟨s, hs⟩ : ∃ s, c.shards[cfg.shardOf (cfg.H k)]? = some s := ⟨_, List.getElem?_eq_getElem hlt⟩
    simp only [Cache.step, hs, regStep, if_true]
    simp only [Cache.lookup, setAt_eq_set, List.getElem?_set_self hlt]
    cases p with
    | true =>
      left
      rw [emplace_phantom P s rfl]
      split
      · rename_i old hold
        show findKey k (eraseKey old.key s.index) = none
        rw [(findKey_some hold).2]; exact findKey_eraseKey_self k _
      · rename_i hnone; exact hnone
    | false =>
      cases hp : (Shard.emplace P s { id := c.nextId, key := k, hash := cfg.H k, ver := v, weight := w, hint := h, phantom := false, loc := l, age := a }).2.2 with
      | true => right; rfl
      | false =>
        left
        simp only [Bool.false_eq_true, if_false]
        -- both branches of `emplace` put the new record at the head of the index
        simp only [Shard.emplace, Bool.false_eq_true, if_false]
        split <;> simp [findKey]
  | remove =>
    left
    obtain ⟨s, hs⟩ : ∃ s, c.shards[cfg.shardOf (cfg.H k)]? = some s := ⟨_, List.getElem?_eq_getElem hlt⟩
    simp only [Cache.step, hs, regStep, if_true]
    split
    · rename_i hnone; simp only [Cache.lookup, hs]; exact hnone
    · rename_i r hr
      simp only [Cache.lookup, setAt_eq_set, List.getElem?_set_self hlt]
      show findKey k (eraseKey r.key s.index) = none
      rw [(findKey_some hr).2]; exact findKey_eraseKey_self k _
  | clear =>
    left
    simp only [regStep, Cache.lookup, step_clear_shards, List.getElem?_map]
    cases c.shards[cfg.shardOf (cfg.H k)]? <;> rfl

theorem lookup_step_sub (L : Lawful P Ok) {cfg : Cfg} {c : Cache σ} (hc : CacheInv P Ok cfg c) (op : Op) {k : Nat} {x : Rec}
    (h : Cache.lookup cfg (Cache.step P cfg c op).1 k = some x) :
    x ∈ admittedOf op (Cache.step P cfg c op).2 ∨ Cache.lookup cfg c k = some x := by
  obtain ⟨F, A, sh⟩ := step_shape P cfg c op
  unfold Cache.lookup at h ⊢
  split at h
  · cases h
  · rename_i t ht
    obtain ⟨s, hs, mv, rfl⟩ := sh.of_getElem? ht
    obtain ⟨hx, hk⟩ := findKey_some h
    rw [hs]
    refine ((hc.move_spec L hs mv).2.mem_index hx).imp (fun hx => (sh.of_mem_adm hs hx).2 (step_no_panic L hc op)) fun hx => ?_
    rw [← hk]; exact findKey_of_mem (hc.shard _ s hs).keys hx

theorem admitted_writes {cfg : Cfg} {c : Cache σ} {op : Op} {x : Rec}
    (h : x ∈ admittedOf op (Cache.step P cfg c op).2) : Writes x.key op := by
  obtain ⟨key, ver, w, hint, loc, age, rfl, rfl⟩ := ins_of_admitted h
  exact .ins ..

/-- **Register refinement, one step.** -/
theorem lookup_step (L : Lawful P Ok) {cfg : Cfg} (hn : 0 < cfg.nshards) {c : Cache σ}
    (hc : CacheInv P Ok cfg c) (k : Nat) (op : Op) (cur : Option Rec)
    (hcur : Cache.lookup cfg c k = none ∨ Cache.lookup cfg c k = cur) :
    Cache.lookup cfg (Cache.step P cfg c op).1 k = none ∨
    Cache.lookup cfg (Cache.step P cfg c op).1 k = regStep k cur op (Cache.step P cfg c op).2 := by
  by_cases hw : Writes k op
  · exact Or.inr ((lookup_written P (hc.shard_lt hn k) hw cur).resolve_right
      (step_no_panic L hc op))
  · rw [regStep_of_not_writes hw]
    cases hl : Cache.lookup cfg (Cache.step P cfg c op).1 k with
    | none => exact Or.inl rfl
    | some x =>
      rcases lookup_step_sub L hc op hl with hx | hx
      · exact absurd (lookup_key hl ▸ admitted_writes hx) hw
      · rcases hcur with h | h
        · rw [h] at hx; cases hx
        · exact Or.inr (hx.symm.trans h)

theorem reads_latest_from (L : Lawful P Ok) {cfg : Cfg} (hn : 0 < cfg.nshards) (k : Nat) :
    ∀ (ops : List Op) (c : Cache σ) (cur : Option Rec), CacheInv P Ok cfg c →
      (Cache.lookup cfg c k = none ∨ Cache.lookup cfg c k = cur) →
      Cache.lookup cfg (Cache.run P cfg c ops).1 k = none ∨
      Cache.lookup cfg (Cache.run P cfg c ops).1 k = regRun k ops (Cache.run P cfg c ops).2 cur := by
  intro ops
  induction ops with
  | nil => intro c cur _ h; simpa [Cache.run, regRun] using h
  | cons op ops ih =>
    intro c cur hc h
    have h1 := lookup_step L hn hc k op cur h
    have h2 := ih _ (regStep k cur op (Cache.step P cfg c op).2) (step_inv L hn hc op) h1
    simp only [Cache.run, regRun]
    exact h2

/-- **Part A — reads_latest**: after any operation sequence on a fresh cache a lookup of `k` finds
nothing, or exactly the record of the latest insert of `k` that no remove / clear / disk-only insert
of `k` has followed.  Evictions, resizes, other keys, other shards only ever turn hits into misses. -/
theorem reads_latest (L : Lawful P Ok) (cfg : Cfg) (hn : 0 < cfg.nshards) (cap : Nat) (k : Nat) (ops : List Op) :
    let r := Cache.run P cfg (Cache.new P cfg cap) ops
    Cache.lookup cfg r.1 k = none ∨ Cache.lookup cfg r.1 k = regRun k ops r.2 none := by
  exact reads_latest_from L hn k ops _ none (new_inv L cfg cap) (Or.inl (lookup_new P cfg cap k))

/-- What `get`, `remove`, `contains` and `touch` return is read off `Cache.lookup` of the state they start from. -/
theorem reads_observe_lookup (cfg : Cfg) (c : Cache σ) (k : Nat) :
    ((Cache.step P cfg c (.get k)).2.ret = Ret.miss ∨ (Cache.step P cfg c (.get k)).2.ret = Ret.bad ∨
      ∃ r, (Cache.step P cfg c (.get k)).2.ret = Ret.handle r ∧ Cache.lookup cfg c k = some r ∧ r.key = k) ∧
    ((Cache.step P cfg c (.remove k)).2.ret = Ret.miss ∨ (Cache.step P cfg c (.remove k)).2.ret = Ret.bad ∨
      ∃ r, (Cache.step P cfg c (.remove k)).2.ret = Ret.handle r ∧ Cache.lookup cfg c k = some r ∧ r.key = k) ∧
    ((Cache.step P cfg c (.contains k)).2.ret = Ret.bad ∨
      (Cache.step P cfg c (.contains k)).2.ret = Ret.bool (Cache.lookup cfg c k).isSome) ∧
    ((Cache.step P cfg c (.touch k)).2.ret = Ret.bad ∨
      (Cache.step P cfg c (.touch k)).2.ret = Ret.bool (Cache.lookup cfg c k).isSome) := by
  refine ⟨?_, ?_, ?_, ?_⟩
  · cases hl : Cache.lookup cfg c k with
    | none => exact (step_get_miss P hl).ret.imp_right Or.inl
    | some r => exact Or.inr (Or.inr ⟨r, (step_get_hit P hl).ret, rfl, lookup_key hl⟩)
  · cases hl : Cache.lookup cfg c k with
    | none => exact (step_remove_miss P hl).ret.imp_right Or.inl
    | some r => exact Or.inr (Or.inr ⟨r, (step_remove_hit P hl).ret, rfl, lookup_key hl⟩)
  · simp only [Cache.step, Cache.lookup]
    split
    · left; rfl
    · right; rfl
  · simp only [Cache.step, Cache.lookup]
    split
    · left; rfl
    · split
      · rename_i h; right; simp [h]
      · rename_i r h; right; simp [h]

/-- **held_stable**: the record a handle denotes is never replaced or altered by any operation
other than the drop of that very handle — whatever happens to the entry in the cache (eviction,
replacement, removal, clear). -/
theorem held_stable (cfg : Cfg) (c : Cache σ) (op : Op) (rid : Nat) (x : Rec)
    (h : heldFind c.held rid = some x) (hop : op ≠ .drop rid) :
    heldFind (Cache.step P cfg c op).1.held rid = some x := by
  rcases step_held P cfg c op with ⟨rid', d, rfl, hd, hheld⟩ | ⟨_, hinc⟩
  · rw [hheld]
    exact heldFind_dec_ne (fun e => hop (by rw [e, heldFind_id hd])) h
  · rcases hinc with hheld | ⟨r, hheld⟩ <;> rw [hheld]
    · exact h
    · exact heldFind_inc _ h

namespace Demo
def cfg : Cfg := { nshards := 2, H := fun _ => 7 }   -- a constant (fully colliding) hasher
def ops : List Op := [.ins 0 1 1 .normal false, .ins 1 2 1 .normal false, .ins 0 3 1 .normal false, .remove 1]
example : ((Cache.lookup cfg (Cache.run fifoPolicy cfg (Cache.new fifoPolicy cfg 8) ops).1 0).map (·.ver)) = some 3 := by decide
example : (regRun 0 ops (Cache.run fifoPolicy cfg (Cache.new fifoPolicy cfg 8) ops).2 none).map (·.ver) = some 3 := by decide
example : (regRun 1 ops (Cache.run fifoPolicy cfg (Cache.new fifoPolicy cfg 8) ops).2 none) = none := by decide
end Demo

end

open Foyer.Conc

/-- The in-memory cache as a sequential object. -/
def memObj {σ : Type} (P : Policy σ) (cfg : Cfg) (cap : Nat) : SeqObj (Cache σ) Op Out :=
  { init := Cache.new P cfg cap, step := Cache.step P cfg }

theorem seqRun_memObj {σ : Type} (P : Policy σ) (cfg : Cfg) (cap : Nat) :
    ∀ (ops : List Op) (c0 : Cache σ), seqRun (memObj P cfg cap) c0 ops = Cache.run P cfg c0 ops := by
  intro ops
  induction ops with
  | nil => intro c0; rfl
  | cons op ops ih => intro c0; simp only [seqRun, Cache.run, memObj]; rw [← ih]; rfl

/-- **atomic_sections_linearizable**: for *every* interleaving of invocations, atomic steps and
responses of any number of threads, the sequence of atomic steps (`lins`, ordered by time)
 * is a legal sequential history of the object (running the sequential model over it yields exactly
   the recorded results and the current object state),
 * contains, for every response, the call's linearization point with the same result, after its
   invocation and before its response,
 * and respects real time: if call `a` responded before call `b` was invoked then `a` is
   linearized before `b`. -/
theorem atomic_sections_linearizable {S O R : Type} (o : SeqObj S O R) (as : List (Action O)) :
    let c := crun o (CState.init o) as
    seqRun o o.init (c.lins.map (·.op)) = (c.obj, c.lins.map (·.ret)) ∧
    c.lins.Pairwise (fun a b => a.time < b.time) ∧
    (∀ e ∈ c.ress, ∃ l ∈ c.lins, l.id = e.id ∧ l.ret = e.ret ∧ l.time < e.time) ∧
    (∀ l ∈ c.lins, ∃ i ∈ c.invs, i.id = l.id ∧ i.op = l.op ∧ i.time < l.time) ∧
    (∀ e ∈ c.ress, ∀ i ∈ c.invs, e.time < i.time →
      ∀ la ∈ c.lins, ∀ lb ∈ c.lins, la.id = e.id → lb.id = i.id → la.time < lb.time) := by
  have h := J_run o as _ (J_init o)
  refine ⟨h.legal, h.sorted, ?_, ?_, ?_⟩
  · intro e he
    obtain ⟨h1, l, hl, h2, h3⟩ := h.res_after_lin e he
    exact ⟨l, hl, h2, h3, h1 l hl h2⟩
  · intro l hl
    obtain ⟨h1, i, hi, h2, h3⟩ := h.lin_after_inv l hl
    exact ⟨i, hi, h2, h3, h1 i hi h2⟩
  · intro e he i hi hlt la hla lb hlb ha hb
    have h1 := (h.res_after_lin e he).1 la hla ha
    have h2 := (h.lin_after_inv lb hlb).1 i hi hb.symm
    omega

/-- Part A and Part B composed: in any interleaving, after all atomic steps so far, a lookup of `k`
finds nothing or the register value determined by the *linearization order*. -/
theorem concurrent_reads_latest {σ : Type} {P : Policy σ} {Ok : σ → Prop} (L : Lawful P Ok) (cfg : Cfg)
    (hn : 0 < cfg.nshards) (cap : Nat) (k : Nat) (as : List (Action Op)) :
    let c := crun (memObj P cfg cap) (CState.init (memObj P cfg cap)) as
    Cache.lookup cfg c.obj k = none ∨
    Cache.lookup cfg c.obj k = regRun k (c.lins.map (·.op)) (c.lins.map (·.ret)) none := by
  intro c
  have h : Cache.run P cfg (Cache.new P cfg cap) (c.lins.map (·.op)) = (c.obj, c.lins.map (·.ret)) :=
    seqRun_memObj P cfg cap _ _ ▸ (atomic_sections_linearizable (memObj P cfg cap) as).1
  have hr := reads_latest L cfg hn cap k (c.lins.map (·.op))
  rw [h] at hr
  exact hr

end Foyer.C02
