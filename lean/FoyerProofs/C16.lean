import FoyerProofs.Lemmas.CacheInv
import FoyerProofs.Lemmas.LawfulFifo
import FoyerProofs.C05  -- `C05.no_panic`: audited under this property (bin/props.py)
/-
  C16 — User callbacks run outside cache locks, so re-entrant use cannot deadlock.

  One `Cache.step` is the critical section of an operation; its notifications (`Out.leaves`) are data it
  returns.  `Cache.stepCb` is the re-entrant semantics: they are delivered after the step (after the lock is
  released) and whatever the listener does with the same cache runs as ordinary steps.  The theorems: this
  is well-defined for *every* callback behaviour and nesting depth.  That the real code delivers its
  callbacks at that point is what the correspondence shows: a callback moved under the lock deadlocks
  (watchdog), one moved before the state change observes a different state.
-/
namespace Foyer.C16

variable {σ : Type} {P : Policy σ} {Ok : σ → Prop}

/-- **callbacks_after_unlock**: the first thing a listener can observe is the state *after* the
outer operation's critical section. -/
theorem callbacks_after_unlock (cfg : Cfg) (cb : Reason → Rec → List Op) (fuel : Nat) (c : Cache σ) (op : Op) :
    ∃ rest, (Cache.stepCb P cfg cb fuel c op).2 = (Cache.step P cfg c op).2 :: rest := by
  cases fuel with
  | zero => exact ⟨[], rfl⟩
  | succ f => exact ⟨_, rfl⟩

/-- A callback that does nothing leaves exactly the outer step. -/
theorem no_callback (cfg : Cfg) (fuel : Nat) (c : Cache σ) (op : Op) :
    Cache.stepCb P cfg (fun _ _ => []) fuel c op = ((Cache.step P cfg c op).1, [(Cache.step P cfg c op).2]) := by
  cases fuel with
  | zero => rfl
  | succ f =>
    -- the listener issues nothing: the inner fold over `[]` hands the accumulator back, so does the outer one
    simp only [Cache.stepCb, List.foldl_nil]
    rw [List.foldlRecOn (motive := (· = _)) _ (fun acc _ => acc) rfl fun _ h _ _ => h]

def InvNoPanic (P : Policy σ) (Ok : σ → Prop) (cfg : Cfg) (acc : Cache σ × List Out) : Prop :=
  CacheInv P Ok cfg acc.1 ∧ ∀ o ∈ acc.2, o.ret ≠ Ret.panic

/-- **reentrant_ops_complete**: whatever the listeners do and however deep they nest, every nested
operation is an ordinary step from an invariant-satisfying state: the invariant holds afterwards and
no operation (outer or nested) reaches an `unwrap()` / `assert!`. -/
theorem reentrant_inv (L : Lawful P Ok) {cfg : Cfg} (hn : 0 < cfg.nshards) (cb : Reason → Rec → List Op) :
    ∀ (fuel : Nat) (c : Cache σ) (op : Op), CacheInv P Ok cfg c →
      CacheInv P Ok cfg (Cache.stepCb P cfg cb fuel c op).1 ∧
      ∀ o ∈ (Cache.stepCb P cfg cb fuel c op).2, o.ret ≠ Ret.panic := by
  intro fuel
  induction fuel with
  | zero =>
    intro c op hc
    refine ⟨step_inv L hn hc op, fun o ho => ?_⟩
    rw [List.mem_singleton.mp ho]
    exact step_no_panic L hc op
  | succ f ih =>
    intro c op hc
    simp only [Cache.stepCb]
    have nested : ∀ (acc : Cache σ × List Out) (op' : Op), InvNoPanic P Ok cfg acc →
        InvNoPanic P Ok cfg ((Cache.stepCb P cfg cb f acc.1 op').1, acc.2 ++ (Cache.stepCb P cfg cb f acc.1 op').2) :=
      fun acc op' h => ⟨(ih acc.1 op' h.1).1, fun o ho => (List.mem_append.mp ho).elim (h.2 o) ((ih acc.1 op' h.1).2 o)⟩
    have := List.foldlRecOn (motive := InvNoPanic P Ok cfg) (Cache.step P cfg c op).2.leaves _
      (b := ((Cache.step P cfg c op).1, [])) ⟨step_inv L hn hc op, fun o ho => nomatch ho⟩
      fun acc h (ev : Reason × Rec) _ => List.foldlRecOn (motive := InvNoPanic P Ok cfg) (cb ev.1 ev.2) _ h
        fun acc h op' _ => nested acc op' h
    refine ⟨this.1, fun o ho => ?_⟩
    rcases List.mem_cons.mp ho with rfl | h
    · exact step_no_panic L hc op
    · exact this.2 o h


/-- The locks of the in-memory cache and the only nesting the code performs: the in-flight mutex is
taken while the shard lock is held (`emplace`, `get_or_fetch_inner`); shard locks are never nested
(`clear`, `usage`, `evict_all`, `flush` take them one at a time, `resize` one per thread); listener,
pipe, weighter, filter and destructors are invoked with no lock held. -/
inductive Lock where
  | shard | inflight
deriving DecidableEq, Repr

def nesting : List (Lock × Lock) := [(.shard, .inflight)]

/-- **lock_order_acyclic**: no lock is (transitively) taken while a lock that is taken under it is
held. -/
theorem lock_order_acyclic : ∀ a b, (a, b) ∈ nesting → (b, a) ∉ nesting ∧ a ≠ b := by
  intro a b h
  cases a <;> cases b <;> simp [nesting] at h ⊢

namespace Demo
def cfg : Cfg := { nshards := 1, H := fun k => k }
def cb : Reason → Rec → List Op := fun e r => if e = .evict then [.contains r.key, .ins (1000 + r.key) 99 1 .normal false] else []
def run3 := Cache.stepCb fifoPolicy cfg cb 1
  (Cache.run fifoPolicy cfg (Cache.new fifoPolicy cfg 2) [.ins 0 1 1 .normal false, .ins 1 2 1 .normal false]).1
  (.ins 2 3 1 .normal false)
/-- the third insert evicts key 0; the listener sees key 0 gone (`contains` = false) and inserts
key 1000, which in turn evicts key 1 -/
example : run3.2.map (·.ret) = [.handle { id := 2, key := 2, hash := 2, ver := 3, weight := 1 }, .bool false, .handle { id := 3, key := 1000, hash := 1000, ver := 99, weight := 1 }] := by decide
example : run3.2.map (fun o => o.leaves.map (·.2.key)) = [[0], [], [1]] := by decide
end Demo

end Foyer.C16
